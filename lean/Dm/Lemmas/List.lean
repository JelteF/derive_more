/-
List facts that core does not state and that several lemma and property files need: reading a list back
through `getD` over `range` (also under `map`, `zipWith`, and over the indices of `zipIdx`), `getD` of
`zipWith`, `filter` under `zipIdx`, `findIdx?` in terms of `getElem?`, a successful `>>=` on `Except` and a
successful `mapM` into it, `find?` with a predicate that singles out one member, stable three-way
partition by `filter`.
-/
namespace Dm.ListFacts

variable {α β γ ε : Type}

theorem map_range_getD (l : List α) (d : α) : (List.range l.length).map (fun i => l.getD i d) = l := by
  induction l with
  | nil => rfl
  | cons a t ih =>
    rw [List.length_cons, List.range_succ_eq_map, List.map_cons, List.map_map]
    exact congrArg (a :: ·) ih

theorem map_range_getD_map (g : α → β) (l : List α) (d : α) :
    (List.range l.length).map (fun i => g (l.getD i d)) = l.map g := by
  have h := congrArg (List.map g) (map_range_getD l d)
  rwa [List.map_map] at h

theorem map_range_getD_zipWith (f : α → β → γ) (l : List α) (r : List β) (d : α) (e : β)
    (h : l.length = r.length) :
    (List.range l.length).map (fun i => f (l.getD i d) (r.getD i e)) = List.zipWith f l r := by
  -- `map` over `range` is `zipWith` of `range` with itself; then each side is read back on its own
  have hr := map_range_getD r e
  rw [← h] at hr
  rw [← List.zipWith_self (f := fun i j => f (l.getD i d) (r.getD j e)),
    ← List.zipWith_map (f := f) (g := fun i => l.getD i d) (h := fun j => r.getD j e), map_range_getD, hr]

theorem getD_zipWith (f : α → β → γ) (l : List α) (r : List β) (a : α) (b : β) (c : γ) (i : Nat)
    (hl : i < l.length) (hr : i < r.length) :
    (List.zipWith f l r).getD i c = f (l.getD i a) (r.getD i b) := by
  simp only [List.getD_eq_getElem?_getD, List.getElem?_zipWith, List.getElem?_eq_getElem, hl, hr, Option.getD_some]

theorem map_zipIdx_snd (h : Nat → β) (l : List α) :
    l.zipIdx.map (fun x => h x.2) = (List.range l.length).map h := by
  have hs := congrArg (List.map h) (List.zipIdx_map_snd 0 l)
  rwa [List.map_map, ← List.range_eq_range'] at hs

theorem filter_zipIdx_fst (l : List α) (p : α → Bool) :
    (l.zipIdx.filter fun x => p x.1).map Prod.fst = l.filter p :=
  List.filter_map.symm.trans (congrArg _ (List.zipIdx_map_fst 0 l))

theorem findIdx?_eq_some_iff_getElem? {xs : List α} {p : α → Bool} {i : Nat} :
    xs.findIdx? p = some i ↔
      (∃ x, xs[i]? = some x ∧ p x = true) ∧ ∀ j < i, ∀ y, xs[j]? = some y → ¬ p y = true := by
  rw [List.findIdx?_eq_some_iff_getElem]
  constructor
  · rintro ⟨h, hp, hmin⟩
    refine ⟨⟨xs[i], List.getElem?_eq_getElem h, hp⟩, fun j hj y hy => ?_⟩
    obtain ⟨hj', rfl⟩ := List.getElem?_eq_some_iff.1 hy
    exact hmin j hj
  · rintro ⟨⟨x, hx, hp⟩, hmin⟩
    obtain ⟨h, rfl⟩ := List.getElem?_eq_some_iff.1 hx
    exact ⟨h, hp, fun j hj => hmin j hj _ (List.getElem?_eq_getElem _)⟩

theorem bind_eq_ok {x : Except ε α} {g : α → Except ε β} {b : β} (h : x >>= g = .ok b) :
    ∃ a, x = .ok a ∧ g a = .ok b := by
  cases x with
  | error e => cases h
  | ok a => exact ⟨a, rfl, h⟩

/-- When `mapM` into `Except` succeeds, `f` succeeded on every element and the results stand in the
same positions. -/
theorem map_eq_of_mapM_eq_ok {f : α → Except ε β} {l : List α} {r : List β} (h : l.mapM f = .ok r) :
    l.map f = r.map .ok := by
  induction l generalizing r with
  | nil => cases h; rfl
  | cons a t ih =>
    rw [List.mapM_cons] at h
    obtain ⟨b, hfa, h⟩ := bind_eq_ok h
    obtain ⟨bs, ht, h⟩ := bind_eq_ok h
    cases h
    rw [List.map_cons, hfa, ih ht]
    rfl

theorem length_of_mapM_eq_ok {f : α → Except ε β} {l : List α} {r : List β} (h : l.mapM f = .ok r) :
    r.length = l.length := by
  have hl := congrArg List.length (map_eq_of_mapM_eq_ok h)
  rw [List.length_map, List.length_map] at hl
  exact hl.symm

theorem find?_eq_some_of_unique {p : α → Bool} {l : List α} {x : α} (hx : x ∈ l) (hp : p x = true)
    (hu : ∀ y ∈ l, p y = true → y = x) : l.find? p = some x := by
  cases h : l.find? p with
  | none => exact absurd hp (List.find?_eq_none.1 h x hx)
  | some y => rw [hu y (List.mem_of_find?_eq_some h) (List.find?_some h)]

/-- Splitting by `p`, then the rest by `q`, loses and duplicates nothing. -/
theorem filter3_perm (p q r : α → Bool) (l : List α) (hq : ∀ a, q a = (q a && !p a))
    (hr : ∀ a, r a = (!q a && !p a)) :
    (l.filter p ++ l.filter q ++ l.filter r).Perm l := by
  have h := List.filter_append_perm q (l.filter fun a => !p a)
  rw [List.filter_filter, List.filter_filter] at h
  rw [List.append_assoc, List.filter_congr (fun a _ => hq a), List.filter_congr (fun a _ => hr a)]
  exact (List.Perm.append_left _ h).trans (List.filter_append_perm p l)

end Dm.ListFacts
