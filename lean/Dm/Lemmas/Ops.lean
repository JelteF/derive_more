import Dm.Model.Ops

/-
The `match (self, rhs)` generated for a binary operator on an enum, evaluated first arm first: two values
of one variant reach that variant's arm, two values of different variants fall through to the tail.
-/
namespace Dm.Ops

variable {α : Type} (op : α → α → α) (d : α)

/-- What the arm generated for a variant of kind `k` returns when it fires. -/
def armResult (v : Nat) (l r : List α) : VKind → Except BinErr (Nat × List α)
  | .unit => .error .unit
  | .fields n => .ok (v, (fieldwiseBin n).map (eval op (fun x (_ : Unit) => x) id (fun _ => d) l r () d))

/-- One step of the first-arm-wins evaluation over the generated arms. -/
theorem evalEnum_variantArms_cons (i : Nat) (k : VKind) (ks : List VKind)
    (tail : List Arm) (a b : Nat × List α) :
    evalEnum op d (variantArms i (k :: ks) ++ tail) a b =
      if a.1 = i ∧ b.1 = i then some (armResult op d i a.2 b.2 k)
      else evalEnum op d (variantArms (i + 1) ks ++ tail) a b := by
  cases k <;> rfl

/-- Two values of the same variant select that variant's arm: the arms before it are for other variants. -/
theorem evalEnum_variantArms_same (i : Nat) (ks : List VKind) (tail : List Arm) (j : Nat) (l r : List α)
    {k : VKind} (h : ks[j]? = some k) :
    evalEnum op d (variantArms i ks ++ tail) (i + j, l) (i + j, r) = some (armResult op d (i + j) l r k) := by
  induction ks generalizing i j with
  | nil => cases h
  | cons k' ks ih =>
    rw [evalEnum_variantArms_cons]
    cases j with
    | zero =>
      obtain rfl : k' = k := Option.some.inj h
      exact if_pos ⟨rfl, rfl⟩
    | succ j =>
      -- arm `i` is for another variant, and `i + (j + 1)` is `(i + 1) + j` for the arms after it
      rw [if_neg fun hi => Nat.succ_ne_zero j (Nat.add_left_cancel (k := 0) hi.1), ← Nat.add_assoc, Nat.add_right_comm]
      exact ih (i + 1) j h

/-- Two values of different variants fall through all the generated arms. -/
theorem evalEnum_variantArms_diff (i : Nat) (ks : List VKind) (tail : List Arm) (a b : Nat × List α)
    (hne : a.1 ≠ b.1) :
    evalEnum op d (variantArms i ks ++ tail) a b = evalEnum op d tail a b := by
  induction ks generalizing i with
  | nil => rfl
  | cons k ks ih =>
    rw [evalEnum_variantArms_cons, if_neg fun hi => hne (hi.1.trans hi.2.symm)]
    exact ih (i + 1)

/-- The arms of a whole enum are numbered from 0. -/
theorem evalEnum_enumArms_same (vs : List VKind) (v : Nat) {k : VKind} (l r : List α)
    (hv : vs[v]? = some k) :
    evalEnum op d (enumArms vs) (v, l) (v, r) = some (armResult op d v l r k) := by
  have h := evalEnum_variantArms_same op d 0 vs (if vs.length > 1 then [Arm.mismatch] else []) v l r hv
  rwa [Nat.zero_add] at h

end Dm.Ops
