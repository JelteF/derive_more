import Dm.Model.FmtBytes

/-
The byte-level parser model: the byte length of a prefix is a character boundary, so slicing there gives
the two parts back; what `WB` gives (`WB.ok`, `WB.noPanic`), and `any_char` / `char(c)` as instances of
`check_char`; the `while let` loop over a well-behaved parser stops within its fuel; and `take_until1`
is `take_while1` of the parser `untilStep`, so that one analysis of the loop serves both.
-/
namespace Dm.Bytes

theorem le_ite {c : Prop} [Decidable c] {n a b : Nat} (ha : n ≤ a) (hb : n ≤ b) : n ≤ if c then a else b := by
  split <;> assumption

theorem utf8Len_pos (c : Char) : 1 ≤ utf8Len c :=
  le_ite (Nat.le_refl 1) (le_ite (by decide) (le_ite (by decide) (by decide)))

theorem byteLen_append (a b : List Char) : byteLen (a ++ b) = byteLen a + byteLen b := by
  induction a with
  | nil => exact (Nat.zero_add _).symm
  | cons c cs ih => rw [List.cons_append, byteLen, byteLen, ih, Nat.add_assoc]

theorem sliceFrom_zero (s : List Char) : sliceFrom s 0 = some s := by
  cases s <;> rfl

theorem sliceTo_zero (s : List Char) : sliceTo s 0 = some [] := by
  cases s <;> rfl

theorem utf8Len_add_eq_succ (c : Char) (m : Nat) : ∃ k, utf8Len c + m = k + 1 :=
  Nat.exists_eq_succ_of_ne_zero (Nat.ne_of_gt (Nat.lt_of_lt_of_le (utf8Len_pos c) (Nat.le_add_right _ m)))

theorem sliceFrom_cons_add (c : Char) (cs : List Char) (m : Nat) :
    sliceFrom (c :: cs) (utf8Len c + m) = sliceFrom cs m := by
  obtain ⟨k, h⟩ := utf8Len_add_eq_succ c m
  rw [h, sliceFrom, if_pos (h ▸ Nat.le_add_right _ m), ← h, Nat.add_sub_cancel_left]

theorem sliceFrom_head (c : Char) (cs : List Char) : sliceFrom (c :: cs) (utf8Len c) = some cs := by
  rw [← Nat.add_zero (utf8Len c), sliceFrom_cons_add, sliceFrom_zero]

theorem sliceTo_cons_add (c : Char) (cs : List Char) (m : Nat) :
    sliceTo (c :: cs) (utf8Len c + m) = (sliceTo cs m).map (c :: ·) := by
  obtain ⟨k, h⟩ := utf8Len_add_eq_succ c m
  rw [h, sliceTo, if_pos (h ▸ Nat.le_add_right _ m), ← h, Nat.add_sub_cancel_left]

theorem sliceFrom_append (p r : List Char) : sliceFrom (p ++ r) (byteLen p) = some r := by
  induction p with
  | nil => exact sliceFrom_zero r
  | cons c cs ih => rw [List.cons_append, byteLen, sliceFrom_cons_add, ih]

theorem sliceTo_append (p r : List Char) : sliceTo (p ++ r) (byteLen p) = some p := by
  induction p with
  | nil => exact sliceTo_zero r
  | cons c cs ih => rw [List.cons_append, byteLen, sliceTo_cons_add, ih]; rfl

/-- `input.len() - cur.len()` is the byte length of the consumed prefix, so the slice is that prefix. -/
theorem sliceConsumed_suffix (pre cur : List Char) :
    sliceConsumed (pre ++ cur) cur = .ok (cur, pre) := by
  rw [sliceConsumed, byteLen_append, Nat.add_sub_cancel, sliceTo_append]

theorem WB.ok {p : P} (h : WB p) {i r : List Char} (hp : p i = .ok r) : ∃ pre, pre ≠ [] ∧ i = pre ++ r := by
  have := h i
  rwa [hp] at this

theorem WB.noPanic {p : P} (h : WB p) : NoPanic p := by
  intro i hp
  have := h i
  rwa [hp] at this

theorem anyChar_eq_checkChar : anyChar = checkChar fun _ => true := by
  funext i; cases i <;> rfl

theorem char'_eq_checkChar (c : Char) : char' c = checkChar (fun d => d = c) := by
  funext i
  cases i with
  | nil => rfl
  | cons d cs =>
    by_cases h : d = c
    · simp only [char', checkChar, h, decide_true, if_true]
    · simp only [char', checkChar, h, decide_false, if_false, Bool.false_eq_true]

/-- The `while let` loop over a well-behaved parser stops before the fuel (the length of what is left,
plus one) runs out, without a panic, at a suffix of where it started. -/
theorem whileSome_spec {p : P} (h : WB p) {fuel : Nat} {cur : List Char} (hlt : cur.length < fuel) :
    ∃ r pre, whileSome p fuel cur = .ok r ∧ cur = pre ++ r := by
  induction fuel generalizing cur with
  | zero => exact absurd hlt (Nat.not_lt_zero _)
  | succ f ih =>
    unfold whileSome
    cases hpc : p cur with
    | panic => exact (h.noPanic cur hpc).elim
    | none => exact ⟨cur, [], rfl, rfl⟩
    | ok step =>
      obtain ⟨pre, hne, rfl⟩ := h.ok hpc
      -- `p` consumed the non-empty `pre`, so the fuel left still exceeds what is left to parse
      rw [List.length_append] at hlt
      obtain ⟨r, pre', hr, rfl⟩ := ih (cur := step)
        (Nat.lt_of_lt_of_le (Nat.lt_add_of_pos_left (List.length_pos_iff.2 hne)) (Nat.le_of_lt_succ hlt))
      exact ⟨r, pre ++ pre', hr, (List.append_assoc ..).symm⟩

/-- One round of the `loop` of `take_until1` as a parser: stop where `until` matches, else `basic`. -/
def untilStep (basic until_ : P) : P := fun cur =>
  match until_ cur with
  | .ok _ => .none
  | .panic => .panic
  | .none => basic cur

theorem WB.untilStep {basic until_ : P} (hb : WB basic) (hu : NoPanic until_) :
    WB (Bytes.untilStep basic until_) := by
  intro i
  unfold Bytes.untilStep
  cases hui : until_ i with
  | ok _ => trivial
  | panic => exact hu i hui
  | none => exact hb i

theorem untilLoop_eq_whileSome (basic until_ : P) (fuel : Nat) (cur : List Char) :
    untilLoop basic until_ fuel cur = whileSome (untilStep basic until_) fuel cur := by
  induction fuel generalizing cur with
  | zero => rfl
  | succ f ih =>
    unfold untilLoop whileSome untilStep
    cases until_ cur with
    | ok _ => rfl
    | panic => rfl
    | none =>
      cases basic cur with
      | ok b => exact ih b
      | none => rfl
      | panic => rfl

theorem takeUntil1_eq_takeWhile1 (basic until_ : P) (input : List Char) :
    takeUntil1 basic until_ input = takeWhile1 (untilStep basic until_) input := by
  unfold takeUntil1 takeWhile1 untilStep
  cases until_ input with
  | ok _ => rfl
  | panic => rfl
  | none =>
    cases basic input with
    | ok first => dsimp only; rw [untilLoop_eq_whileSome]; rfl
    | none => rfl
    | panic => rfl

end Dm.Bytes
