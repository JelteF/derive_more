import Dm.Model.FromStr

/-
The arm `arms` generates for one variant, under a name (`armOf`): which strings it matches, and that a
group of size one has one member.
-/
namespace Dm.FS

variable {σ : Type} [DecidableEq σ]

def armOf (lower : σ → σ) (names : List σ) (v : σ) : Arm σ :=
  if groupSize lower names (lower v) = 1 then { key := lower v, guard := none, variant := v }
  else { key := lower v, guard := some v, variant := v }

theorem arms_eq_map_armOf (lower : σ → σ) (names : List σ) : arms lower names = names.map (armOf lower names) := rfl

theorem armOf_variant (lower : σ → σ) (names : List σ) (v : σ) : (armOf lower names v).variant = v := by
  unfold armOf; split <;> rfl

theorem armOf_matches_iff (lower : σ → σ) (names : List σ) (s v : σ) :
    (armOf lower names v).matches lower s = true
      ↔ lower s = lower v ∧ (groupSize lower names (lower v) = 1 ∨ s = v) := by
  unfold armOf
  split <;> simp [Arm.matches, *]

theorem eq_of_groupSize_one {lower : σ → σ} {names : List σ} {k : σ} (h : groupSize lower names k = 1)
    {v w : σ} (hv : v ∈ names) (hw : w ∈ names) (hvk : lower v = k) (hwk : lower w = k) : v = w := by
  obtain ⟨x, hx⟩ := List.length_eq_one_iff.1 h
  have hin : ∀ u ∈ names, lower u = k → u = x := fun u hu huk =>
    List.mem_singleton.1 (hx ▸ List.mem_filter.2 ⟨hu, decide_eq_true huk⟩)
  rw [hin v hv hvk, hin w hw hwk]

end Dm.FS
