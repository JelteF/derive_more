import Dm.Model.TySpec

/- `contains_generics` decides "one of the identifiers in type position is a parameter":
`tyContains ps t = (tyIdents t).any ps.contains`, mutually over the five syntactic classes (types, lists of
types, path segments, generic arguments, trait-object bounds). -/
namespace Dm.TyGen

mutual
  theorem ty_spec (ps : List Name) : ∀ t, tyContains ps t = (tyIdents t).any ps.contains
    | .path qself segs => by
      unfold tyContains tyIdents
      rw [List.any_append]
      congr 1
      · cases qself with
        | none => rfl
        | some q => exact ty_spec ps q
      · -- `path.get_ident()` is a shortcut: the general branch gives the same on a lone bare identifier
        split
        · simp [segsIdents]
        · exact segs_spec ps true segs
    | .elem t => by simpa [tyContains, tyIdents] using ty_spec ps t
    | .bareFn ins out => by
      have h1 := tys_spec ps ins
      cases out with
      | none => simp [tyContains, tyIdents, h1]
      | some t => simp [tyContains, tyIdents, h1, ty_spec ps t]
    | .tuple es => by simpa [tyContains, tyIdents] using tys_spec ps es
    | .traitObj bs => by simpa [tyContains, tyIdents] using bounds_spec ps bs
    | .opaque => by simp [tyContains, tyIdents]
  theorem tys_spec (ps : List Name) : ∀ ts, tysContain ps ts = (tysIdents ts).any ps.contains
    | [] => by simp [tysContain, tysIdents]
    | t :: ts => by simp [tysContain, tysIdents, ty_spec ps t, tys_spec ps ts]
  theorem segs_spec (ps : List Name) (first : Bool) :
      ∀ segs, segsContains ps first segs = (segsIdents first segs).any ps.contains
    | [] => by simp [segsContains, segsIdents]
    | .mk i args :: rest => by
      have hr := segs_spec ps false rest
      cases args with
      | none => cases first <;> simp [segsContains, segsIdents, hr]
      | angle as => simp [segsContains, segsIdents, hr, gargs_spec ps as]
      | paren ins out =>
        cases out with
        | none => simp [segsContains, segsIdents, hr, tys_spec ps ins]
        | some t => simp [segsContains, segsIdents, hr, tys_spec ps ins, ty_spec ps t, Bool.or_assoc]
  theorem gargs_spec (ps : List Name) : ∀ gs, gargsContain ps gs = (gargsIdents gs).any ps.contains
    | [] => by simp [gargsContain, gargsIdents]
    | .ty t :: r => by simp [gargsContain, gargsIdents, ty_spec ps t, gargs_spec ps r]
    | .assocTy t :: r => by simp [gargsContain, gargsIdents, ty_spec ps t, gargs_spec ps r]
    | .other :: r => by simp [gargsContain, gargsIdents, gargs_spec ps r]
  theorem bounds_spec (ps : List Name) : ∀ bs, boundsContain ps bs = (boundsIdents bs).any ps.contains
    | [] => by simp [boundsContain, boundsIdents]
    | b :: bs => by simp [boundsContain, boundsIdents, segs_spec ps true b, bounds_spec ps bs]
end
end Dm.TyGen
