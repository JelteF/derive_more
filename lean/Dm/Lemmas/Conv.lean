import Dm.Model.Conv
import Dm.Lemmas.List

/-
`From` / `Into` expansion without its control flow: an un-annotated item is skipped or expands as `#[from]`,
`intoKind` is one `mapM` over the considered types, and what a successful `intoExpand` consists of.
-/
namespace Dm.Conv

/-- A struct or variant without `#[from]` attribute is either skipped or treated as if it had `#[from]`. -/
theorem fromExpand_unannotated (isVariant hef : Bool) (fields : List Field) :
    fromExpand .none isVariant hef fields =
      if hef || (isVariant && fields.isEmpty) then .ok [] else fromExpand .empty isVariant hef fields :=
  rfl

/-- The test in `intoKind` only short-cuts the empty list. -/
theorem intoKind_eq_mapM (fields : List (Nat × Field)) (k : RefKind) (cv : Convs) :
    intoKind fields k cv =
      ((if cv.consider then [fieldsTupleOf fields] else []) ++ cv.tys).mapM fun out =>
        match validateType fields.length out with
        | .ok tys => .ok { kind := k, fields := fields.map (·.1), tys := tys }
        | .error e => .error e := by
  obtain ⟨c, tys⟩ := cv
  cases c
  · cases tys <;> rfl
  · rfl

/-- Every impl of one reference kind has that kind and extracts the given fields. -/
theorem kind_fields_of_mem_intoKind {fields : List (Nat × Field)} {k : RefKind} {cv : Convs}
    {r : List IntoImpl} (h : intoKind fields k cv = .ok r) {impl : IntoImpl} (hm : impl ∈ r) :
    impl.kind = k ∧ impl.fields = fields.map (·.1) := by
  have h := ListFacts.map_eq_of_mapM_eq_ok (intoKind_eq_mapM fields k cv ▸ h)
  obtain ⟨x, _, hx⟩ := List.mem_map.1 (h ▸ List.mem_map_of_mem (f := Except.ok) hm)
  split at hx
  · cases hx; exact ⟨rfl, rfl⟩
  · cases hx

/-- A successful `intoExpand` is the three reference kinds' successes, its impls theirs in this order. -/
theorem intoExpand_eq_ok {fields : List (Nat × Field)} {c : ConvsAttr} {impls : List IntoImpl}
    (h : intoExpand fields c = .ok impls) :
    ∃ a b d, intoKind fields .owned c.owned = .ok a ∧ intoKind fields .ref c.ref = .ok b
      ∧ intoKind fields .refMut c.refMut = .ok d ∧ impls = a ++ b ++ d := by
  revert h
  fun_cases intoExpand fields c <;> intro h <;> cases h
  exact ⟨_, _, _, ‹_›, ‹_›, ‹_›, rfl⟩

end Dm.Conv
