import Dm.Model.StdFmt

/-
`Hd`, a predicate on the first character of a remainder; then one specification lemma per combinator of the
literal-parser model: the `takeWhile` parsers by an `iff`, the alternations by the disjunction they stand for,
`format_spec` and `format` as the chain of their stages, which are named here (`argStage`, `specStage`, `widthStage`,
`precStage`).  Both directions of C03 are read off these.  Last, the formats of a derivation (`formatsOf`) and that
`parse_fmt_string` numbers them as std does.
-/
namespace Dm.Fmt

/-- `P` holds of the first character of `r`, if there is one. Every stage of the parser decides on the first
character of what is left, so this is the form in which one printed component learns about what follows it. -/
def Hd (P : Char → Prop) (r : List Char) : Prop := ∀ x ∈ r.head?, P x

theorem Hd.nil {P : Char → Prop} : Hd P [] := fun _ h => by cases h

theorem Hd.cons_iff {P : Char → Prop} {x : Char} {t : List Char} : Hd P (x :: t) ↔ P x :=
  ⟨fun h => h x rfl, fun h _ e => by cases e; exact h⟩

theorem Hd.append {P : Char → Prop} {l r : List Char} (hl : Hd P l) (hr : Hd P r) : Hd P (l ++ r) := by
  cases l with
  | nil => exact hr
  | cons a t => exact hl

theorem Hd.mono {P Q : Char → Prop} {r : List Char} (h : Hd P r) (hPQ : ∀ x, P x → Q x) : Hd Q r :=
  fun x hx => hPQ x (h x hx)

theorem Hd.of_forall {P : Char → Prop} {l : List Char} (h : ∀ x ∈ l, P x) : Hd P l :=
  fun x hx => h x (List.mem_of_mem_head? hx)

theorem Hd.optRender {α : Type} {P : Char → Prop} {f : α → List Char} {o : Option α} (h : ∀ a, o = some a → Hd P (f a)) :
    Hd P (optRender f o) := by
  cases o with
  | none => exact Hd.nil
  | some a => exact h a rfl

theorem Hd.ite {P : Char → Prop} (b : Bool) (x : Char) (h : P x) : Hd P (if b then [x] else []) := by
  cases b with
  | false => exact Hd.nil
  | true => exact Hd.cons_iff.mpr h

/-- `takeWhile`/`dropWhile` split `s` at the first character that fails `p`, and nowhere else. -/
theorem span_iff {p : Char → Bool} {s l r : List Char} :
    (s.takeWhile p = l ∧ s.dropWhile p = r) ↔ s = l ++ r ∧ (∀ c ∈ l, p c = true) ∧ Hd (p · = false) r := by
  constructor
  · rintro ⟨rfl, rfl⟩
    refine ⟨List.takeWhile_append_dropWhile.symm, fun c => List.all_eq_true.mp List.all_takeWhile c, fun x hx => ?_⟩
    have := List.head?_dropWhile_not p s
    rwa [Option.mem_def.mp hx] at this
  · rintro ⟨rfl, hl, hr⟩
    rw [List.takeWhile_append_of_pos hl, List.dropWhile_append_of_pos hl]
    cases r with
    | nil => exact ⟨List.append_nil l, rfl⟩
    | cons x t =>
      have hx : ¬ p x = true := Bool.eq_false_iff.mp (Hd.cons_iff.mp hr)
      rw [List.takeWhile_cons_of_neg hx, List.dropWhile_cons_of_neg hx]
      exact ⟨List.append_nil l, rfl⟩

theorem text_eq_some_iff {s r t : List Char} :
    text s = some (r, t) ↔ s = t ++ r ∧ t ≠ [] ∧ (∀ c ∈ t, isBrace c = false) ∧ Hd (isBrace · = true) r := by
  have key : (s = t ++ r ∧ (∀ c ∈ t, (!isBrace c) = true) ∧ Hd (fun c => (!isBrace c) = false) r) ↔
      (s = t ++ r ∧ (∀ c ∈ t, isBrace c = false) ∧ Hd (isBrace · = true) r) := by
    simp only [Bool.not_eq_true', Bool.not_eq_false']
  constructor
  · fun_cases text s
    · intro h; cases h
    · rename_i hne
      intro h; cases h
      obtain ⟨e, ha⟩ := key.mp (span_iff.mp ⟨rfl, rfl⟩)
      exact ⟨e, hne, ha⟩
  · rintro ⟨e, hne, ha⟩
    obtain ⟨h1, h2⟩ := span_iff.mpr (key.mpr ⟨e, ha⟩)
    rw [text, h1, h2]
    cases t with
    | nil => exact absurd rfl hne
    | cons a l => rfl

theorem integer_eq_some_iff {s r : List Char} {n : Nat} :
    integer s = some (r, n) ↔ ∃ ds, s = ds ++ r ∧ IsIndex ds ∧ n = digitsVal ds ∧ Hd (isDigit · = false) r := by
  constructor
  · fun_cases integer s
    · intro h; cases h
    · rename_i hne hle
      intro h; cases h
      obtain ⟨e, ha, hr⟩ := span_iff.mp ⟨rfl, rfl⟩
      exact ⟨_, e, ⟨hne, ha, hle⟩, rfl, hr⟩
    · intro h; cases h
  · rintro ⟨ds, e, ⟨hne, ha, hle⟩, rfl, hr⟩
    obtain ⟨h1, h2⟩ := span_iff.mpr ⟨e, ha, hr⟩
    rw [integer, h1, h2]
    cases ds with
    | nil => exact absurd rfl hne
    | cons a l => exact if_pos hle

theorem identifier_eq_some_iff {cc : CharClasses} {s r i : List Char} :
    identifier cc s = some (r, i) ↔ s = i ++ r ∧ IsIdent cc i ∧ Hd (cc.isCont · = false) r := by
  constructor
  · fun_cases identifier cc s
    · intro h; cases h
    · rename_i c cs hst
      intro h; cases h
      obtain ⟨e, ha, hr⟩ := span_iff.mp ⟨rfl, rfl⟩
      exact ⟨congrArg (c :: ·) e, Or.inl ⟨hst, ha⟩, hr⟩
    · intro h; cases h
    · rename_i cs _ hne
      intro h; cases h
      obtain ⟨e, ha, hr⟩ := span_iff.mp ⟨rfl, rfl⟩
      exact ⟨congrArg ('_' :: ·) e, Or.inr ⟨rfl, hne, ha⟩, hr⟩
    · intro h; cases h
  · rintro ⟨rfl, hi, hr⟩
    cases i with
    | nil => exact hi.elim
    | cons c t =>
      obtain ⟨h1, h2⟩ := span_iff.mpr ⟨rfl, hi.elim (·.2) (·.2.2), hr⟩
      rw [List.cons_append, identifier, h1, h2]
      by_cases hst : cc.isStart c = true
      · exact if_pos hst
      · obtain ⟨rfl, hne, _⟩ := hi.resolve_left (fun h => hst h.1)
        rw [if_neg hst, if_pos rfl]
        cases t with
        | nil => exact absurd rfl hne
        | cons a l => rfl

theorem identifier_none_of_head {cc : CharClasses} {s : List Char} (h : Hd (fun x => cc.isStart x = false ∧ x ≠ '_') s) :
    identifier cc s = none := by
  cases s with
  | nil => rfl
  | cons x t => rw [identifier, if_neg (Bool.eq_false_iff.mp (Hd.cons_iff.mp h).1), if_neg (Hd.cons_iff.mp h).2]

theorem integer_none_of_head {s : List Char} (h : Hd (isDigit · = false) s) : integer s = none := by
  have := (span_iff (p := isDigit) (s := s) (l := [])).mpr ⟨rfl, (fun _ h => nomatch h), h⟩
  unfold integer
  rw [this.1]

theorem argument_none_of_head {cc : CharClasses} {s : List Char}
    (h : Hd (fun x => cc.isStart x = false ∧ x ≠ '_' ∧ isDigit x = false) s) : argument cc s = none := by
  unfold argument
  rw [identifier_none_of_head (h.mono fun _ h => ⟨h.1, h.2.1⟩), integer_none_of_head (h.mono fun _ h => h.2.2)]

theorem text_none_of_head {s : List Char} (h : Hd (isBrace · = true) s) : text s = none := by
  have := (span_iff (p := fun c => !isBrace c) (s := s) (l := [])).mpr
    ⟨rfl, (fun _ h => nomatch h), h.mono fun x hx => by rw [hx]; rfl⟩
  unfold text
  rw [this.1]

theorem skipWs_eq_iff {cc : CharClasses} {s r : List Char} :
    skipWs cc s = r ↔ ∃ ws, s = ws ++ r ∧ (∀ c ∈ ws, cc.isWs c = true) ∧ Hd (cc.isWs · = false) r :=
  ⟨fun h => ⟨_, span_iff.mp ⟨rfl, h⟩⟩, fun ⟨_, h⟩ => (span_iff.mpr h).2⟩

theorem argument_eq_some_iff {cc : CharClasses} {s r : List Char} {a : Arg} :
    argument cc s = some (r, a) ↔
      (∃ i, identifier cc s = some (r, i) ∧ a = .ident i) ∨
      (identifier cc s = none ∧ ∃ n, integer s = some (r, n) ∧ a = .int n) := by
  constructor
  · fun_cases argument cc s
    · rename_i hi
      intro h; cases h; exact .inl ⟨_, hi, rfl⟩
    · rename_i hi _ _ hn
      intro h; cases h; exact .inr ⟨hi, _, hn, rfl⟩
    · intro h; cases h
  · rintro (⟨i, hi, rfl⟩ | ⟨hi, n, hn, rfl⟩)
    · rw [argument, hi]
    · rw [argument, hi, hn]

theorem parameter_eq_some_iff {cc : CharClasses} {s r : List Char} {a : Arg} :
    parameter cc s = some (r, a) ↔ argument cc s = some ('$' :: r, a) := by
  unfold parameter
  split
  · next h => rw [h]; exact ⟨fun e => by cases e; rfl, fun e => by cases e; rfl⟩
  · next hn => exact ⟨(fun h => nomatch h), fun h => (hn r a h).elim⟩

theorem parameter_eq_none_iff {cc : CharClasses} {s : List Char} :
    parameter cc s = none ↔ ∀ r a, argument cc s ≠ some ('$' :: r, a) := by
  refine ⟨fun h r a e => ?_, fun h => ?_⟩
  · rw [parameter_eq_some_iff.mpr e] at h; cases h
  · cases hp : parameter cc s with
    | none => rfl
    | some q => exact absurd (parameter_eq_some_iff.mp hp) (h q.1 q.2)

theorem count_eq_some_iff {cc : CharClasses} {s r : List Char} {c : Count} :
    count cc s = some (r, c) ↔
      (∃ a, parameter cc s = some (r, a) ∧ c = .param a) ∨
      (parameter cc s = none ∧ ∃ n, integer s = some (r, n) ∧ c = .int n) := by
  constructor
  · fun_cases count cc s
    · rename_i hp
      intro h; cases h; exact .inl ⟨_, hp, rfl⟩
    · rename_i hp _ _ hn
      intro h; cases h; exact .inr ⟨hp, _, hn, rfl⟩
    · intro h; cases h
  · rintro (⟨a, hp, rfl⟩ | ⟨hp, n, hn, rfl⟩)
    · rw [count, hp]
    · rw [count, hp, hn]

theorem precision_eq_some_iff {cc : CharClasses} {s r : List Char} {p : Precision} :
    precision cc s = some (r, p) ↔
      (∃ c, count cc s = some (r, c) ∧ p = .count c) ∨ (count cc s = none ∧ s = '*' :: r ∧ p = .star) := by
  constructor
  · fun_cases precision cc s
    · rename_i hc
      intro h; cases h; exact .inl ⟨_, hc, rfl⟩
    · rename_i hc
      intro h; cases h; exact .inr ⟨hc, rfl, rfl⟩
    · intro h; cases h
  · unfold precision
    rintro (⟨c, hc, rfl⟩ | ⟨hc, rfl, rfl⟩)
    · rw [hc]
    · rw [hc]; rfl

/-- `type_` reads one of the ten non-empty types off the front, or falls through to the empty type. -/
theorem type_spec (cc : CharClasses) (s : List Char) :
    (∃ ty r, type_ cc s = some (r, ty) ∧ s = ty.render ++ r ∧ ty.render ≠ []) ∨
    type_ cc s = (match skipWs cc s with | '}' :: _ => some (s, .display) | _ => none) := by
  fun_cases type_ cc s
  -- the ten literal alternatives: what was matched is the print of the type returned
  iterate 10 exact Or.inl ⟨_, _, rfl, rfl, List.cons_ne_nil _ _⟩
  · exact Or.inr rfl
  · exact Or.inr rfl

/-- What `type_` does on `'x' :: r` and `'X' :: r` when `r` does not start with `?`. These are Lean's fifth and sixth
equation of `type_` (numbered in the order of the model's alternatives); one lemma, so that they are generated once. -/
theorem type_hex (cc : CharClasses) {r : List Char} (h : Hd (· ≠ '?') r) :
    type_ cc ('x' :: r) = some (r, .lowerHex) ∧ type_ cc ('X' :: r) = some (r, .upperHex) :=
  ⟨type_.eq_5 cc r fun _ e => absurd rfl (Hd.cons_iff.mp (e ▸ h)), type_.eq_6 cc r fun _ e => absurd rfl (Hd.cons_iff.mp (e ▸ h))⟩

theorem alignOf_eq_some_iff {c : Char} {a : Align} : alignOf c = some a ↔ c = a.render := by
  constructor
  · fun_cases alignOf c
    · rename_i hc; intro h; cases h; exact hc
    · rename_i hc; intro h; cases h; exact hc
    · rename_i hc; intro h; cases h; exact hc
    · intro h; cases h
  · rintro rfl
    cases a <;> rfl

/-- What is printed for a spec, component by component in front of what follows: the form in which the stages meet it. -/
theorem SpecA.render_append (s : SpecA) (r : List Char) :
    s.render ++ r = s.renderFillAlign ++ (optRender (fun sg => [Sign.render sg]) s.sign ++ ((if s.alt then ['#'] else []) ++
      ((if s.zero then ['0'] else []) ++ (s.renderWidth ++ (s.renderPrec ++ (s.ty.render ++ r)))))) := by
  simp only [SpecA.render, List.append_assoc]

theorem PhA.render_append (p : PhA) (tail : List Char) :
    p.render ++ tail = '{' :: (optRender ArgA.render p.arg ++
      ((match p.spec with | some s => ':' :: s.render | none => []) ++ (p.ws ++ '}' :: tail))) := by
  simp only [PhA.render, List.cons_append, List.append_assoc, List.nil_append]
  rfl

/- The stages of `format_spec` and `format` that the model writes inline, named. Each repeats the model's match verbatim
at the model's types; that is what lets `formatSpec_eq_some_iff` and `format_eq_some_iff` unfold the model by `rfl`. -/

def widthStage (cc : CharClasses) (s4 : List Char) : List Char × Option Count :=
  match count cc s4 with
  | some (r, c) => (r, some c)
  | none => (s4, none)

def argStage (cc : CharClasses) (s0 : List Char) : List Char × Option Arg :=
  match argument cc s0 with
  | some (r, a) => (r, some a)
  | none => (s0, none)

def precStage (cc : CharClasses) (s5 : List Char) : Option (List Char × Option Precision) :=
  match s5 with
  | '.' :: r =>
    match precision cc r with
    | some (r', p) => some (r', some p)
    | none => none
  | _ => some (s5, none)

def specStage (cc : CharClasses) (s1 : List Char) : Option (List Char × Option Spec) :=
  match s1 with
  | ':' :: r =>
    match formatSpec cc r with
    | some (r', sp) => some (r', some sp)
    | none => none
  | _ => some (s1, none)

theorem argStage_of_argument {cc : CharClasses} {s r : List Char} {a : Arg} (h : argument cc s = some (r, a)) :
    argStage cc s = (r, some a) := by
  rw [argStage, h]

theorem argStage_of_none {cc : CharClasses} {s : List Char} (h : argument cc s = none) : argStage cc s = (s, none) := by
  rw [argStage, h]

theorem widthStage_of_count {cc : CharClasses} {s r : List Char} {c : Count} (h : count cc s = some (r, c)) :
    widthStage cc s = (r, some c) := by
  rw [widthStage, h]

theorem widthStage_of_none {cc : CharClasses} {s : List Char} (h : count cc s = none) : widthStage cc s = (s, none) := by
  rw [widthStage, h]

theorem precStage_of_head {cc : CharClasses} {r : List Char} (h : Hd (· ≠ '.') r) : precStage cc r = some (r, none) := by
  unfold precStage
  split
  · exact absurd rfl (Hd.cons_iff.mp h)
  · rfl

theorem precStage_of_precision {cc : CharClasses} {r r' : List Char} {p : Precision} (h : precision cc r = some (r', p)) :
    precStage cc ('.' :: r) = some (r', some p) := by
  simp only [precStage, h]

theorem specStage_of_head {cc : CharClasses} {r : List Char} (h : Hd (· ≠ ':') r) : specStage cc r = some (r, none) := by
  unfold specStage
  split
  · exact absurd rfl (Hd.cons_iff.mp h)
  · rfl

theorem specStage_of_formatSpec {cc : CharClasses} {r r' : List Char} {sp : Spec} (h : formatSpec cc r = some (r', sp)) :
    specStage cc (':' :: r) = some (r', some sp) := by
  simp only [specStage, h]

/-- `format_spec` succeeds exactly when its seven stages do, each on what the one before left. -/
theorem formatSpec_eq_some_iff {cc : CharClasses} {s r : List Char} {sp : Spec} :
    formatSpec cc s = some (r, sp) ↔
      ∃ s1 s2 s3 s4 s5 s6, fillAlign s = (s1, sp.align) ∧ signOf s1 = (s2, sp.sign) ∧ altOf s2 = (s3, sp.alt) ∧
        zeroOf s3 = (s4, sp.zero) ∧ widthStage cc s4 = (s5, sp.width) ∧ precStage cc s5 = some (s6, sp.prec) ∧
        type_ cc s6 = some (r, sp.ty) := by
  constructor
  · fun_cases formatSpec cc s
    · intro h; cases h
    · intro h; cases h
    · -- the hypotheses of this case are the seven stage equations
      intro h; cases h
      exact ⟨_, _, _, _, _, _, ‹_›, ‹_›, ‹_›, ‹_›, ‹_›, ‹_›, ‹_›⟩
  · rintro ⟨s1, s2, s3, s4, s5, s6, h1, h2, h3, h4, h5, h6, h7⟩
    -- `by rfl`, not `rfl`: the term `rfl` is elaborated by unification, at more than ten times the cost
    have unfolded : formatSpec cc s =
        match precStage cc (widthStage cc (zeroOf (altOf (signOf (fillAlign s).1).1).1).1).1 with
        | none => none
        | some (s6, p) =>
          match type_ cc s6 with
          | none => none
          | some (s7, ty) =>
            some (s7, { align := (fillAlign s).2, sign := (signOf (fillAlign s).1).2,
                        alt := (altOf (signOf (fillAlign s).1).1).2,
                        zero := (zeroOf (altOf (signOf (fillAlign s).1).1).1).2,
                        width := (widthStage cc (zeroOf (altOf (signOf (fillAlign s).1).1).1).1).2, prec := p, ty := ty }) := by
      rfl
    rw [unfolded]
    simp only [h1, h2, h3, h4, h5, h6, h7]

theorem format_none_of_head (cc : CharClasses) {s : List Char} (h : Hd (· ≠ '{') s) : format cc s = none := by
  unfold format
  split
  · exact absurd rfl (Hd.cons_iff.mp h)
  · rfl

theorem maybeFormat_none_of_head (cc : CharClasses) {s : List Char} (h : Hd (isBrace · = false) s) :
    maybeFormat cc s = none := by
  unfold maybeFormat
  split
  · exact absurd (Hd.cons_iff.mp h) (by decide)
  · exact absurd (Hd.cons_iff.mp h) (by decide)
  · rw [format_none_of_head cc (h.mono fun x hx e => by rw [e] at hx; exact absurd hx (by decide))]

/-- `format` succeeds exactly when `{`, the argument stage, the spec stage and `[ws]* }` do. -/
theorem format_eq_some_iff {cc : CharClasses} {s r : List Char} {f : Format} :
    format cc s = some (r, f) ↔
      ∃ s0 s1 s2, s = '{' :: s0 ∧ argStage cc s0 = (s1, f.arg) ∧ specStage cc s1 = some (s2, f.spec) ∧
        skipWs cc s2 = '}' :: r := by
  constructor
  · fun_cases format cc s
    · intro h; cases h
    · intro h; cases h
      exact ⟨_, _, _, rfl, ‹_›, ‹_›, ‹_›⟩
    · intro h; cases h
    · intro h; cases h
  · rintro ⟨s0, s1, s2, rfl, h1, h2, h3⟩
    have unfolded : format cc ('{' :: s0) =
        match specStage cc (argStage cc s0).1 with
        | none => none
        | some (s2, spec) =>
          match skipWs cc s2 with
          | '}' :: r => some (r, { arg := (argStage cc s0).2, spec := spec })
          | _ => none := by rfl
    rw [unfolded, h1, h2]
    dsimp only
    rw [h3]
    rfl

theorem formatLoop_of_maybeFormat {cc : CharClasses} {s r : List Char} {f : Option Format} (n : Nat)
    (h : maybeFormat cc s = some (r, f)) :
    formatLoop cc (n + 1) s = (f.toList ++ (formatLoop cc n r).1, (formatLoop cc n r).2) := by
  rw [formatLoop, h]
  cases f <;> rfl

theorem formatLoop_of_text {cc : CharClasses} {s r t : List Char} (n : Nat)
    (hm : maybeFormat cc s = none) (ht : text s = some (r, t)) : formatLoop cc (n + 1) s = formatLoop cc n r := by
  rw [formatLoop, hm, ht]

theorem format_nil (cc : CharClasses) : format cc [] = none := rfl
theorem maybeFormat_nil (cc : CharClasses) : maybeFormat cc [] = none := rfl
theorem text_nil : text [] = none := rfl

theorem formatLoop_nil (cc : CharClasses) (n : Nat) : formatLoop cc n [] = ([], []) := by
  cases n <;> rfl

theorem formatString_nil (cc : CharClasses) : formatString cc [] = some [] := rfl

theorem formatString_of_text_none {cc : CharClasses} {s : List Char} {fs : List Format} (ht : text s = none)
    (hl : formatLoop cc (s.length + 1) s = (fs, [])) : formatString cc s = some fs := by
  unfold formatString
  rw [ht]
  dsimp only
  rw [hl]

theorem formatString_of_text_some {cc : CharClasses} {s s0 t : List Char} {fs : List Format} (ht : text s = some (s0, t))
    (hl : formatLoop cc (s0.length + 1) s0 = (fs, [])) : formatString cc s = some fs := by
  unfold formatString
  rw [ht]
  dsimp only
  rw [hl]

/-- The formats a derivation denotes. -/
def formatsOf : List Piece → List Format
  | [] => []
  | .ph p :: ps => p.toFormat :: formatsOf ps
  | _ :: ps => formatsOf ps

theorem formatsOf_cons (q : Piece) (ps : List Piece) : formatsOf (q :: ps) = formatsOf [q] ++ formatsOf ps := by
  cases q <;> rfl

theorem PhA.toFormat_isStar (p : PhA) : p.toFormat.isStar = p.isStar := by
  unfold PhA.toFormat Format.isStar PhA.isStar
  cases p.spec with
  | none => rfl
  | some s =>
    show (s.prec.map PrecA.toPrec == some .star) = (s.prec == some .star)
    cases s.prec with
    | none => rfl
    | some pr => cases pr <;> rfl

theorem Ty.not_isTrivial (ty : Ty) : (!ty.isTrivial) = ty.isDebugHex := by cases ty <;> rfl

theorem SpecA.toSpec_hasModifiers (s : SpecA) : s.toSpec.hasModifiers = s.hasModifiers := by
  simp only [SpecA.toSpec, Spec.hasModifiers, SpecA.hasModifiers, Option.isSome_map, Ty.not_isTrivial]

theorem PhA.toFormat_mods (p : PhA) : p.toFormat.hasModifiers = p.mods := by
  unfold PhA.toFormat Format.hasModifiers PhA.mods
  cases p.spec with
  | none => rfl
  | some s => exact s.toSpec_hasModifiers

theorem PhA.toFormat_trait (p : PhA) : p.toFormat.ty.trait = p.trait := by
  unfold PhA.toFormat Format.ty PhA.trait
  cases p.spec with
  | none => rfl
  | some s => rfl

/-- The implicit-counter logic of `parse_fmt_string` is std's: explicit arguments do not advance
the counter, `.*` advances it once more. -/
theorem placeholdersFrom_formatsOf (n : Nat) (ps : List Piece) :
    placeholdersFrom n (formatsOf ps) = meaningFrom n ps := by
  induction ps generalizing n with
  | nil => rfl
  | cons p ps ih =>
    cases p with
    | text cs => exact ih n
    | lbrace => exact ih n
    | rbrace => exact ih n
    | ph p =>
      simp only [formatsOf, placeholdersFrom, meaningFrom, PhA.toFormat_isStar, PhA.toFormat_mods,
        PhA.toFormat_trait]
      cases hp : p.arg with
      | none => simp only [PhA.toFormat, hp, Option.map, ih]
      | some a => cases a <;> simp only [PhA.toFormat, hp, Option.map, ArgA.toArg, ih]

/-- What `parse_fmt_string` reports for a literal that is read as the formats of a derivation is std's reading of that
derivation. -/
theorem parseFmtString_eq_meaning {cc : CharClasses} {s : List Char} {ps : List Piece}
    (h : formatString cc s = some (formatsOf ps)) : parseFmtString cc s = meaning ps := by
  unfold parseFmtString meaning
  rw [h]
  exact placeholdersFrom_formatsOf 0 ps

end Dm.Fmt
