import Dm.Model.FmtContainer

/-
The fold over the container attributes of the formatting derives, seen through the three lists a `Parsed` stands
for (`fmt.toList`, `bounds`, `renameAll.toList`): `merge` appends them when the result is still a `Parsed`, so the
fold collects the lists of the attributes in order (`parseFrom_eq_some_iff`, `parseAll_some_iff`). From that: what a
position does not see of a list (respelling, regrouping, order), which attributes are readable where, and what
Debug accepts on a field (`fieldOk_iff`).
-/
namespace Dm.FmtContainer

def fmtOf : A → Option (Nat × List Nat)
  | .fmt l as => some (l, as)
  | _ => none

def renameOf : A → Option Case
  | .renameAll (some c) => some c
  | _ => none

def predsOf : A → List Nat
  | .bounds _ ps => ps
  | _ => []

def fmts (l : List A) : List (Nat × List Nat) := l.filterMap fmtOf
def renames (l : List A) : List Case := l.filterMap renameOf
def preds (l : List A) : List Nat := (l.map predsOf).flatten

theorem toList_eq_iff {α : Type} {o : Option α} {l : List α} : o.toList = l ↔ l.length ≤ 1 ∧ o = l.head? := by
  constructor
  · intro h; subst h; exact ⟨Option.length_toList_le, Option.head?_toList.symm⟩
  · rintro ⟨hl, ho⟩
    subst ho
    cases l with
    | nil => rfl
    | cons x t =>
      cases t with
      | nil => rfl
      | cons _ _ => exact absurd (Nat.le_of_succ_le_succ hl) (Nat.not_succ_le_zero _)

theorem toList_inj {α : Type} {o o' : Option α} (h : o.toList = o'.toList) : o = o' := by
  have := congrArg List.head? h
  rwa [Option.head?_toList, Option.head?_toList] at this

/-- One field of `merge`: the two values are refused together, otherwise the one that is there is kept. -/
theorem toList_eq_append_iff {α : Type} {x y z : Option α} :
    z.toList = x.toList ++ y.toList ↔ (x.isSome && y.isSome) = false ∧ z = if y.isSome then y else x := by
  cases x <;> cases y <;> simp [toList_eq_iff]

theorem exists_toList_eq {α : Type} {z : Option α} {l l' : List α} (h : z.toList = l ++ l') :
    ∃ u : Option α, u.toList = l := by
  refine ⟨l.head?, toList_eq_iff.mpr ⟨?_, rfl⟩⟩
  calc l.length ≤ (l ++ l').length := by rw [List.length_append]; exact Nat.le_add_right _ _
    _ = z.toList.length := by rw [h]
    _ ≤ 1 := Option.length_toList_le

theorem toList_eq_of_perm {α : Type} {o : Option α} {l : List α} (h : o.toList.Perm l) : o.toList = l := by
  cases o with
  | none => exact (List.nil_perm.mp h).symm
  | some x => exact List.singleton_perm.mp h

theorem Parsed.ext {p q : Parsed} (hf : p.fmt = q.fmt) (hb : p.bounds = q.bounds) (hr : p.renameAll = q.renameAll) :
    p = q := by
  cases p; cases q; cases hf; cases hb; cases hr; rfl

theorem merge_eq_some_iff {p n m : Parsed} :
    merge p n = some m ↔
      m.fmt.toList = p.fmt.toList ++ n.fmt.toList ∧ m.bounds = p.bounds ++ n.bounds ∧
      m.renameAll.toList = p.renameAll.toList ++ n.renameAll.toList := by
  obtain ⟨mf, mb, mr⟩ := m
  simp only [toList_eq_append_iff, merge, Option.ite_none_left_eq_some, Option.some.injEq, Parsed.mk.injEq,
    Bool.not_eq_true]
  constructor
  · rintro ⟨hr, hf, h1, h2, h3⟩; exact ⟨⟨hf, h1.symm⟩, h2.symm, hr, h3.symm⟩
  · rintro ⟨⟨hf, h1⟩, h2, hr, h3⟩; exact ⟨hr, hf, h1.symm, h2.symm, h3.symm⟩

theorem parseOne_some {g : G} {a : A} {n : Parsed} (h : parseOne g a = some n) :
    n = { fmt := fmtOf a, bounds := predsOf a, renameAll := renameOf a } := by
  revert h
  fun_cases parseOne g a <;> intro h <;> cases h <;> rfl

theorem fmts_cons (a : A) (l : List A) : fmts (a :: l) = (fmtOf a).toList ++ fmts l := by
  unfold fmts; rw [List.filterMap_cons]; cases fmtOf a <;> rfl

theorem renames_cons (a : A) (l : List A) : renames (a :: l) = (renameOf a).toList ++ renames l := by
  unfold renames; rw [List.filterMap_cons]; cases renameOf a <;> rfl

theorem preds_cons (a : A) (l : List A) : preds (a :: l) = predsOf a ++ preds l := rfl

theorem parseFrom_cons (g : G) (acc : Parsed) (a : A) (rest : List A) :
    parseFrom g acc (a :: rest) = (parseOne g a).bind fun n => (merge acc n).bind fun m => parseFrom g m rest := by
  rw [parseFrom]
  cases parseOne g a with
  | none => rfl
  | some n =>
    show (match merge acc n with | none => none | some m => parseFrom g m rest) = (merge acc n).bind _
    cases merge acc n <;> rfl

/-- **The fold in closed form**: every attribute must be readable at this position, and the result stands for what
was accumulated before followed by the format literals, the predicates and the casings of the attributes. -/
theorem parseFrom_eq_some_iff (g : G) (acc : Parsed) (attrs : List A) (r : Parsed) :
    parseFrom g acc attrs = some r ↔
      (∀ a ∈ attrs, (parseOne g a).isSome = true) ∧ r.fmt.toList = acc.fmt.toList ++ fmts attrs ∧
      r.bounds = acc.bounds ++ preds attrs ∧ r.renameAll.toList = acc.renameAll.toList ++ renames attrs := by
  induction attrs generalizing acc with
  | nil =>
    constructor
    · intro h; cases h
      exact ⟨fun _ h => absurd h List.not_mem_nil, (List.append_nil _).symm, (List.append_nil _).symm, (List.append_nil _).symm⟩
    · rintro ⟨_, hf, hb, hr⟩
      exact congrArg some (Parsed.ext (toList_inj (hf.trans (List.append_nil _))) (hb.trans (List.append_nil _))
        (toList_inj (hr.trans (List.append_nil _)))).symm
  | cons a rest ih =>
    rw [parseFrom_cons, fmts_cons, renames_cons, preds_cons, List.forall_mem_cons]
    simp only [Option.bind_eq_some_iff, ← List.append_assoc]
    constructor
    · rintro ⟨n, hn, m, hm, h⟩
      cases parseOne_some hn
      obtain ⟨mf, mb, mr⟩ := merge_eq_some_iff.mp hm
      obtain ⟨h1, h2, h3, h4⟩ := (ih m).mp h
      exact ⟨⟨by rw [hn]; rfl, h1⟩, mf ▸ h2, mb ▸ h3, mr ▸ h4⟩
    · rintro ⟨⟨ha, h1⟩, h2, h3, h4⟩
      obtain ⟨n, hn⟩ := Option.isSome_iff_exists.mp ha
      cases parseOne_some hn
      -- the accumulator after `a`: it exists because what it stands for is a prefix of what `r` stands for
      obtain ⟨uf, huf⟩ := exists_toList_eq h2
      obtain ⟨ur, hur⟩ := exists_toList_eq h4
      exact ⟨_, hn, ⟨uf, _, ur⟩, merge_eq_some_iff.mpr ⟨huf, rfl, hur⟩, (ih _).mpr ⟨h1, huf ▸ h2, h3, hur ▸ h4⟩⟩

/-- The result for an attribute list, when there is one. -/
def resultOf (attrs : List A) : Parsed :=
  { fmt := (fmts attrs).head?, bounds := preds attrs, renameAll := (renames attrs).head? }

theorem parseAll_eq_some_iff_parseFrom {g : G} {attrs : List A} {r : Parsed} :
    parseAll g attrs = some r ↔ parseFrom g {} attrs = some r ∧ (g = .debugEnum → r.fmt = none) := by
  unfold parseAll
  cases parseFrom g {} attrs with
  | none => exact ⟨(fun h => nomatch h), fun h => nomatch h.1⟩
  | some p =>
    show (if (decide (g = .debugEnum) && p.fmt.isSome) = true then none else some p) = some r ↔ _
    rw [Option.ite_none_left_eq_some, and_comm]
    refine and_congr_right fun h => ?_
    cases h
    cases r.fmt <;> simp

/-- **Acceptance characterised**: every attribute readable at the position, at most one format literal, at most one
`rename_all`, no format literal on an enum deriving Debug. -/
theorem parseAll_some_iff (g : G) (attrs : List A) (r : Parsed) :
    parseAll g attrs = some r ↔
      (∀ a ∈ attrs, (parseOne g a).isSome = true) ∧ (fmts attrs).length ≤ 1 ∧ (renames attrs).length ≤ 1 ∧
      (g = .debugEnum → fmts attrs = []) ∧ r = resultOf attrs := by
  rw [parseAll_eq_some_iff_parseFrom, parseFrom_eq_some_iff]
  show (_ ∧ r.fmt.toList = fmts attrs ∧ r.bounds = preds attrs ∧ r.renameAll.toList = renames attrs) ∧ _ ↔ _
  rw [toList_eq_iff, toList_eq_iff]
  constructor
  · rintro ⟨⟨ha, ⟨lf, ef⟩, hb, lr, er⟩, hd⟩
    exact ⟨ha, lf, lr, fun hg => List.head?_eq_none_iff.mp (ef ▸ hd hg), Parsed.ext ef hb er⟩
  · rintro ⟨ha, lf, lr, hd, rfl⟩
    exact ⟨⟨ha, ⟨lf, rfl⟩, rfl, lr, rfl⟩, fun hg => List.head?_eq_none_iff.mpr (hd hg)⟩

theorem parseAll_none_iff (g : G) (attrs : List A) :
    parseAll g attrs = none ↔
      ¬ ((∀ a ∈ attrs, (parseOne g a).isSome = true) ∧ (fmts attrs).length ≤ 1 ∧ (renames attrs).length ≤ 1 ∧
         (g = .debugEnum → fmts attrs = [])) := by
  rw [Option.eq_none_iff_forall_ne_some]
  constructor
  · intro h hc
    exact h _ ((parseAll_some_iff g attrs _).mpr ⟨hc.1, hc.2.1, hc.2.2.1, hc.2.2.2, rfl⟩)
  · intro h r hr
    have := (parseAll_some_iff g attrs r).mp hr
    exact h ⟨this.1, this.2.1, this.2.2.1, this.2.2.2.1⟩

theorem parseFrom_map {g : G} {f : A → A} (hf : ∀ a, parseOne g (f a) = parseOne g a) (acc : Parsed) (attrs : List A) :
    parseFrom g acc (attrs.map f) = parseFrom g acc attrs := by
  induction attrs generalizing acc with
  | nil => rfl
  | cons a rest ih => rw [List.map_cons, parseFrom_cons, parseFrom_cons, hf]; simp only [ih]

theorem parseAll_map {g : G} {f : A → A} (hf : ∀ a, parseOne g (f a) = parseOne g a) (attrs : List A) :
    parseAll g (attrs.map f) = parseAll g attrs := by
  rw [parseAll, parseFrom_map hf, ← parseAll]

theorem parseAll_congr {g : G} {l l' : List A}
    (ha : (∀ a ∈ l, (parseOne g a).isSome = true) ↔ ∀ a ∈ l', (parseOne g a).isSome = true)
    (hf : fmts l = fmts l') (hp : preds l = preds l') (hr : renames l = renames l') :
    parseAll g l = parseAll g l' :=
  Option.ext fun r => by rw [parseAll_some_iff, parseAll_some_iff, resultOf, resultOf, ha, hf, hp, hr]

theorem fmts_append (l l' : List A) : fmts (l ++ l') = fmts l ++ fmts l' := List.filterMap_append
theorem renames_append (l l' : List A) : renames (l ++ l') = renames l ++ renames l' := List.filterMap_append
theorem preds_append (l l' : List A) : preds (l ++ l') = preds l ++ preds l' := by
  simp only [preds, List.map_append, List.flatten_append]

theorem preds_perm {l l' : List A} (h : l.Perm l') : (preds l).Perm (preds l') := (h.map _).flatten

theorem fmt_mem_fmts {l : Nat} {as : List Nat} {attrs : List A} (h : A.fmt l as ∈ attrs) : (l, as) ∈ fmts attrs :=
  List.mem_filterMap.mpr ⟨_, h, rfl⟩

theorem parseFrom_perm {g : G} {acc r : Parsed} {l l' : List A} (h : l.Perm l') (hr : parseFrom g acc l = some r) :
    parseFrom g acc l' = some { r with bounds := acc.bounds ++ preds l' } := by
  obtain ⟨ha, hf, _, hn⟩ := (parseFrom_eq_some_iff ..).mp hr
  exact (parseFrom_eq_some_iff ..).mpr ⟨fun a m => ha a (h.mem_iff.mpr m),
    toList_eq_of_perm (hf ▸ (h.filterMap fmtOf).append_left _), rfl,
    toList_eq_of_perm (hn ▸ (h.filterMap renameOf).append_left _)⟩

theorem parseAll_perm {g : G} {r : Parsed} {l l' : List A} (h : l.Perm l') (hr : parseAll g l = some r) :
    parseAll g l' = some { r with bounds := preds l' } :=
  have ⟨hp, hd⟩ := parseAll_eq_some_iff_parseFrom.mp hr
  parseAll_eq_some_iff_parseFrom.mpr ⟨parseFrom_perm h hp, hd⟩

theorem parseOne_bounds_isSome (g : G) (k : BoundKw) (ps : List Nat) :
    (parseOne g (.bounds k ps)).isSome = !decide (g = .fmtOnly) := by
  cases g <;> rfl

theorem parseOne_isSome_cases {g : G} {a : A} (h : (parseOne g a).isSome = true) :
    (∃ l as, a = .fmt l as) ∨ (∃ k ps, a = .bounds k ps) ∨ ∃ c, a = .renameAll (some c) := by
  cases a with
  | fmt l as => exact .inl ⟨l, as, rfl⟩
  | bounds k ps => exact .inr (.inl ⟨k, ps, rfl⟩)
  | renameAll c =>
    cases c with
    | none => cases h
    | some c => exact .inr (.inr ⟨c, rfl⟩)
  | _ => cases h

theorem fieldOk_iff (cf : Bool) (l : List FA) :
    fieldOk cf l = true ↔ l.length ≤ 1 ∧ FA.unreadable ∉ l ∧ (cf = true → FA.fmt ∉ l) := by
  cases l with
  | nil => exact ⟨fun _ => ⟨Nat.zero_le _, List.not_mem_nil, fun _ => List.not_mem_nil⟩, fun _ => rfl⟩
  | cons a t =>
    cases t with
    | nil => cases a <;> simp [fieldOk, parseField, parseFA]
    | cons _ _ => exact ⟨(fun h => nomatch h), fun h => absurd (Nat.le_of_succ_le_succ h.1) (Nat.not_succ_le_zero _)⟩

theorem debugFieldsOk_iff (cf : Bool) (fields : List (List FA)) :
    debugFieldsOk cf fields = true ↔
      ∀ l ∈ fields, l.length ≤ 1 ∧ FA.unreadable ∉ l ∧ (cf = true → FA.fmt ∉ l) := by
  simp only [debugFieldsOk, List.all_eq_true, fieldOk_iff]

end Dm.FmtContainer
