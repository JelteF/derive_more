import Dm.Model.Generics

/-
The impl header by kind and name: the arguments applied to the type are the printed impl parameters' kinds
and names, a reordering of the declared parameters', so "every argument is declared by the impl" is an
inclusion of two such lists. And `lifetimesFirst` of lifetimes followed by non-lifetimes.
-/
namespace Dm.Gnr

theorem lifetimesFirst_append {A B : List Param} (hA : ∀ p ∈ A, isLifetime p = true) (hB : ∀ p ∈ B, isLifetime p = false) :
    lifetimesFirst (A ++ B) = true := by
  induction A with
  | nil =>
    induction B with
    | nil => rfl
    | cons b bs ih =>
      have hbs : ∀ q ∈ bs, isLifetime q = false := fun q hq => hB q (List.mem_cons_of_mem _ hq)
      rw [List.nil_append, lifetimesFirst, Bool.and_eq_true, Bool.or_eq_true, List.all_eq_true]
      exact ⟨Or.inr fun q hq => by rw [hbs q hq]; rfl, ih hbs⟩
  | cons a as ih =>
    rw [List.cons_append, lifetimesFirst, hA a List.mem_cons_self, Bool.true_or, Bool.true_and]
    exact ih fun p hp => hA p (List.mem_cons_of_mem _ hp)

theorem tyArgs_perm (g : Generics) : (tyArgs g).Perm (g.params.map fun p => (p.kind, p.name)) :=
  (List.filter_append_perm isLifetime g.params).map _

/-- The arguments applied to the type are the kinds and names of the printed impl parameters, in order. -/
theorem implParams_kind_name (g : Generics) : (implParams g).map (fun p => (p.kind, p.name)) = tyArgs g := by
  rw [implParams, List.map_map]
  rfl

/-- Every argument applied to the type is declared by the impl exactly when the extension keeps every
declared parameter, by kind and name. -/
theorem header_argsDeclared_iff (g g' : Generics) :
    (header g g').argsDeclared = true ↔
      (g.params.map fun p => (p.kind, p.name)) ⊆ (g'.params.map fun p => (p.kind, p.name)) := by
  have hany : ∀ a : PKind × Nat,
      ((implParams g').any fun p => p.kind == a.1 && p.name == a.2) = true ↔ a ∈ tyArgs g' := by
    intro a
    rw [← implParams_kind_name, List.any_eq_true, List.mem_map]
    simp only [Bool.and_eq_true, beq_iff_eq, Prod.ext_iff]
  simp only [Header.argsDeclared, header, List.all_eq_true, hany, (tyArgs_perm _).mem_iff]
  rfl

end Dm.Gnr
