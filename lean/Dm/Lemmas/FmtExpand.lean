import Dm.Model.FmtExpand

/- What the decisions of display.rs do, case by case. `fmtBody_eq`: the body of an attribute by `transparentCall`.
`sharedAttrInfo_of_shared_eq_none`, `sharedAttrInfo_default`, `_bare`, `_wrapping`: the value of `shared_attr_info` in its four cases;
`displayBody_own`, `displayBounds_own`: body and bounds of a struct or variant by itself. Bounds in general:
`mem_attrBounds` (which fields an attribute bounds), `mem_displayBounds_of_own` (what is always kept),
`mem_displayBounds` (where every bound comes from). -/
namespace Dm.FmtX
open Dm.Fmt

theorem fmtBody_eq (c : Ctx) (a : FmtAttr) (fields : FieldsD) :
    fmtBody c a fields = match transparentCall c.cc a with
      | some (e, t) => .delegate t (onFields a.args.isEmpty fields.idents e)
      | none => .write a (additionalDerefArgs c.cc a fields.idents) := by
  unfold fmtBody transparentCallOnFields
  cases transparentCall c.cc a <;> rfl

/-! ### `generate_body` of display.rs: the three modes

`shared_attr_info` sorts an expansion into one of three modes. `(false, false)`: the struct or variant
prints by itself (`displayBody_own`); `(true, false)`: the enum-level attribute is a default;
`(true, true)`: it wraps. The last two are C07's theorems. -/

theorem sharedAttrInfo_of_shared_eq_none {c : Ctx} {e : Expansion} (h : e.shared = none) :
    sharedAttrInfo c e = (false, false) := by
  simp only [sharedAttrInfo, h, Bool.false_and]

theorem sharedAttrInfo_default {c : Ctx} {e : Expansion} {sh : FmtAttr} (h : e.shared = some sh)
    (hm : containsArg c.cc sh variantName = false) : sharedAttrInfo c e = (true, false) := by
  simp only [sharedAttrInfo, h, hm]
  cases transparentCall c.cc sh <;> simp

/-- The bare `{_variant}` of the derived trait counts as no enum-level attribute at all. -/
theorem sharedAttrInfo_bare {c : Ctx} {e : Expansion} {sh : FmtAttr} {x : ExprR}
    (h : e.shared = some sh) (hm : containsArg c.cc sh variantName = true)
    (hb : transparentCall c.cc sh = some (x, c.tr)) : sharedAttrInfo c e = (false, false) := by
  simp [sharedAttrInfo, h, hm, hb]

theorem sharedAttrInfo_wrapping {c : Ctx} {e : Expansion} {sh : FmtAttr} (h : e.shared = some sh)
    (hm : containsArg c.cc sh variantName = true)
    (hb : ∀ x, transparentCall c.cc sh ≠ some (x, c.tr)) : sharedAttrInfo c e = (true, true) := by
  simp only [sharedAttrInfo, h, hm]
  cases ht : transparentCall c.cc sh with
  | none => rfl
  | some p =>
    have : p.2 ≠ c.tr := fun hp => hb p.1 (by rw [ht, ← hp])
    simp [this]

/-- What a struct or variant prints by itself: its attribute; else its name for a unit, its field
under the derived trait for a single field, and an error for more. -/
theorem displayBody_own {c : Ctx} {e : Expansion} (h : sharedAttrInfo c e = (false, false)) :
    displayBody c e = match e.attrs.fmt with
      | some a => .ok (fmtBody c a e.fields)
      | none =>
        match e.fields.list with
        | [] => .ok (.writeStr (match e.attrs.rename with
            | some cs => c.conv cs (unraw e.ident)
            | none => String.ofList (unraw e.ident)))
        | [f] => .ok (.delegate c.tr (String.ofList (f.name.getD "_0".toList)))
        | _ => .error .diag := by
  unfold displayBody
  rw [h]
  cases e.attrs.fmt with
  | some a => rfl
  | none =>
    rcases e.fields.list with _ | ⟨f, _ | ⟨g, r⟩⟩
    · rfl
    · rfl
    · rfl

/-! ### `generate_bounds` of display.rs -/

theorem mem_attrBounds {c : Ctx} {a : FmtAttr} {fields : FieldsD} {i : Nat} {tr : Trait} :
    Bound.field i tr ∈ attrBounds c a fields ↔
      (i, tr) ∈ boundedTypes c.cc a fields.kind
        ∧ ∃ f, fields.list[i]? = some f ∧ f.generic = true := by
  unfold attrBounds
  simp only [List.mem_filterMap]
  constructor
  · rintro ⟨⟨j, t⟩, hjt, h⟩
    split at h
    · rename_i f hf
      split at h
      · cases h; exact ⟨hjt, f, hf, ‹_›⟩
      · cases h
    · cases h
  · rintro ⟨hit, f, hf, hg⟩
    exact ⟨(i, tr), hit, by simp only [hf, hg, if_true]⟩

/-- The bounds of a struct or variant by itself: those of its attribute and the user's next to it;
else the implicit delegation to the first field. -/
theorem displayBounds_own {c : Ctx} {e : Expansion} (h : sharedAttrInfo c e = (false, false)) :
    displayBounds c e = match e.attrs.fmt with
      | some a => attrBounds c a e.fields ++ e.attrs.bounds.map Bound.user
      | none =>
        match e.fields.list with
        | f :: _ => if f.generic then [Bound.field 0 c.tr] else []
        | [] => [] := by
  unfold displayBounds
  rw [h]
  cases e.attrs.fmt <;> rfl

/-- The bounds of a struct's or variant's own attribute, and the user's next to it, are always
kept, whatever the enum-level attribute. -/
theorem mem_displayBounds_of_own {c : Ctx} {e : Expansion} {a : FmtAttr} {b : Bound}
    (hf : e.attrs.fmt = some a) (h : b ∈ attrBounds c a e.fields ++ e.attrs.bounds.map Bound.user) :
    b ∈ displayBounds c e := by
  unfold displayBounds
  rw [hf]
  obtain ⟨hs, _ | _⟩ := sharedAttrInfo c e
  · exact h
  · cases e.shared with
    | none => exact h
    | some sh => exact List.mem_append_left _ h

/-- Where the bounds of an expansion come from: an attribute (its own or the enum-level one), the
user's `bound(..)`, or the implicit delegation to the first field. -/
theorem mem_displayBounds {c : Ctx} {e : Expansion} {b : Bound} (h : b ∈ displayBounds c e) :
    (∃ a, b ∈ attrBounds c a e.fields) ∨ b ∈ e.attrs.bounds.map Bound.user
      ∨ ∃ f rest, e.fields.list = f :: rest ∧ f.generic = true ∧ b = .field 0 c.tr := by
  -- whatever `(own, mix)` is, the last step of `generate_bounds` adds at most the enum-level
  -- attribute's bounds
  have mixed : ∀ (x : List Bound × Bool),
      b ∈ (match x with
        | (own, mix) => if mix then (match e.shared with
          | some sh => own ++ attrBounds c sh e.fields
          | none => own) else own) → b ∈ x.1 ∨ ∃ sh, b ∈ attrBounds c sh e.fields := by
    rintro ⟨own, mix⟩ hb
    dsimp only at hb
    split at hb
    · split at hb
      · exact (List.mem_append.1 hb).imp_right fun h => ⟨_, h⟩
      · exact .inl hb
    · exact .inl hb
  unfold displayBounds at h
  generalize sharedAttrInfo c e = info at h
  rcases mixed _ h with h | ⟨sh, h⟩
  · split at h
    · rename_i a _
      exact (List.mem_append.1 h).imp (fun h => ⟨a, h⟩) .inl
    · split at h
      · split at h
        · rename_i f rest hl
          split at h
          · exact .inr (.inr ⟨f, rest, hl, ‹_›, List.mem_singleton.1 h⟩)
          · cases h
        · cases h
      · cases h
  · exact .inl ⟨sh, h⟩

end Dm.FmtX
