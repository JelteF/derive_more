import Dm.Model.TryFromRepr

/-
`derive(TryFrom)` on `repr` enums: the generated `match` is the library's first-match search; the
`(last, inc)` bookkeeping of the constants follows Rust's discriminant rule; and computed in the
representation type the constants are the mathematical ones reduced into it.
-/
namespace Dm.TF

theorem tryFromAux_eq_findIdx? (l : List (Variant × Int)) (i : Nat) (n : Int) :
    tryFromAux l i n = List.findIdx?.go (fun x => x.1.fieldless && decide (x.2 = n)) l i := by
  induction l generalizing i with
  | nil => rfl
  | cons a l ih => rw [tryFromAux, List.findIdx?.go, ih]

theorem tryFrom_eq_findIdx? (vs : List Variant) (n : Int) :
    tryFrom vs n = (vs.zip (consts vs)).findIdx? fun x => x.1.fieldless && decide (x.2 = n) :=
  tryFromAux_eq_findIdx? _ 0 n

/-- Invariant linking the code's `(last, inc)` bookkeeping to Rust's "previous discriminant":
`last + inc` is the discriminant an unmarked next variant gets. -/
theorem constsFrom_eq (last : Int) (inc : Nat) (vs : List Variant) (prev : Option Int)
    (h : last + inc = (match prev with | some p => p + 1 | none => 0)) :
    constsFrom last inc vs = discrsFrom prev vs := by
  induction vs generalizing last inc prev with
  | nil => rfl
  | cons v vs ih =>
    unfold constsFrom discrsFrom
    cases v.discr with
    | some d => exact congr (congrArg _ (Int.add_zero d)) (ih d 1 (some d) rfl)
    | none =>
      have key := ih last (inc + 1) (some (last + inc)) (by rw [Int.natCast_succ, ← Int.add_assoc])
      cases prev <;> (dsimp only at h ⊢; rw [← h, key])

theorem wrap_of_fits {r : Range} {x : Int} (h : r.fits x = true) : r.wrap x = x := by
  simp only [Range.fits, Bool.and_eq_true, decide_eq_true_eq] at h
  rw [Range.wrap, Range.size,
    Int.emod_eq_of_lt (Int.sub_nonneg_of_le h.1) (Int.lt_add_one_of_le (Int.sub_le_sub_right h.2 _)),
    Int.sub_add_cancel]

theorem wrap_add_wrap (r : Range) (a b : Int) : r.wrap (a + r.wrap b) = r.wrap (a + b) := by
  unfold Range.wrap
  rw [← Int.add_assoc, Int.add_sub_cancel, Int.add_emod_emod, Int.add_sub_assoc]

/-- Whatever the enum: the generated constants are the mathematical ones reduced into the type. -/
theorem constsFromW_eq (r : Range) (last : Int) (inc : Nat) (vs : List Variant) :
    constsFromW r last inc vs = (constsFrom last inc vs).map r.wrap := by
  induction vs generalizing last inc with
  | nil => rfl
  | cons v vs ih =>
    unfold constsFrom constsFromW
    cases v.discr <;> dsimp only <;> rw [List.map_cons, ih, constW, wrap_add_wrap]

end Dm.TF
