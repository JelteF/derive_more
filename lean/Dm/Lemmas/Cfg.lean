import Dm.Model.CfgGraph

/-
What the syntactic implication check of the cfg model rests on: the meaning of the normal form,
monotonicity and `impliesPos`, and that `subst` / `simp` keep values (the check's own soundness,
`implies_sound` for `impliesSplit`, is the property theorem of Props/C20). Each fact is proved once,
for `eval`, by the recursor of the nested type `Cfg`, whose second motive speaks of argument lists; the
statements about `evalAny` / `evalAll` are that fact at `.any l` / `.all l`, which unfold to them by `rfl`.
-/
namespace Dm.Cfg

/-- What the normal form means: a positive predicate has the value of "some conjunction holds". -/
theorem eval_eq_dnf (fs : Nat → Bool) : ∀ c, positive c = true → eval fs c = (dnf c).any (·.all fs) := by
  refine Cfg.rec
    (motive_2 := fun l => positiveL l = true →
      evalAny fs l = (dnfAny l).any (·.all fs) ∧ evalAll fs l = (dnfAll l).any (·.all fs))
    (fun _ => rfl) (fun _ => rfl)
    -- an atom: `[[n]].any (·.all fs)` computes to `(fs n && true) || false`
    (fun n _ => ((Bool.or_false _).trans (Bool.and_true (fs n))).symm)
    (fun _ ih hp => (ih hp).1) (fun _ ih hp => (ih hp).2) (fun _ _ hp => nomatch hp) (fun _ => ⟨rfl, rfl⟩) ?_
  intro c l hc hl hp
  obtain ⟨hpc, hpl⟩ := Bool.and_eq_true_iff.1 hp
  rw [evalAny, evalAll, hc hpc, (hl hpl).1, (hl hpl).2, dnfAny, dnfAll, List.any_append]
  -- the conjunctions of `dnfAll (c :: l)` are the `A ++ B`, `A` from `c` and `B` from `dnfAll l`
  simp only [List.any_flatMap, List.any_map, Function.comp_def, List.all_append,
    ← List.and_any_distrib_left, ← List.and_any_distrib_right, and_self]

theorem dnf_sound {fs : Nat → Bool} {c : Cfg} (hp : positive c = true) (he : eval fs c = true) :
    ∃ A ∈ dnf c, ∀ n ∈ A, fs n = true := by
  rw [eval_eq_dnf fs c hp, List.any_eq_true] at he
  obtain ⟨A, hA, h⟩ := he
  exact ⟨A, hA, List.all_eq_true.1 h⟩

theorem dnfAny_sound (fs : Nat → Bool) :
    (l : List Cfg) → positiveL l = true → evalAny fs l = true → ∃ A ∈ dnfAny l, ∀ n ∈ A, fs n = true :=
  fun l => dnf_sound (c := .any l)

theorem dnfAll_sound (fs : Nat → Bool) :
    (l : List Cfg) → positiveL l = true → evalAll fs l = true → ∃ A ∈ dnfAll l, ∀ n ∈ A, fs n = true :=
  fun l => dnf_sound (c := .all l)

/-- Positive predicates are monotone: the conjunction that holds under `fs` holds under `fs'`. -/
theorem eval_mono {fs fs' : Nat → Bool} (h : ∀ n, fs n = true → fs' n = true)
    {c : Cfg} (hp : positive c = true) (he : eval fs c = true) : eval fs' c = true := by
  obtain ⟨A, hA, hf⟩ := dnf_sound hp he
  rw [eval_eq_dnf fs' c hp]
  exact List.any_eq_true.2 ⟨A, hA, List.all_eq_true.2 fun n hn => h n (hf n hn)⟩

theorem evalAny_mono (fs fs' : Nat → Bool) (h : ∀ n, fs n = true → fs' n = true) :
    (l : List Cfg) → positiveL l = true → evalAny fs l = true → evalAny fs' l = true :=
  fun l => eval_mono h (c := .any l)

theorem evalAll_mono (fs fs' : Nat → Bool) (h : ∀ n, fs n = true → fs' n = true) :
    (l : List Cfg) → positiveL l = true → evalAll fs l = true → evalAll fs' l = true :=
  fun l => eval_mono h (c := .all l)

theorem impliesPos_sound {a b : Cfg} (h : impliesPos a b = true) {fs : Nat → Bool}
    (he : eval fs a = true) : eval fs b = true := by
  simp only [impliesPos, Bool.and_eq_true, List.all_eq_true] at h
  obtain ⟨⟨hpa, hpb⟩, hall⟩ := h
  obtain ⟨A, hA, hf⟩ := dnf_sound hpa he
  exact eval_mono (fun n hn => hf n (List.contains_iff_mem.1 hn)) hpb (hall A hA)

theorem subst_eval (fs : Nat → Bool) (a : Nat) {v : Bool} (hv : fs a = v) :
    ∀ c, eval fs (subst a v c) = eval fs c := by
  refine Cfg.rec
    (motive_2 := fun l => evalAny fs (substL a v l) = evalAny fs l ∧ evalAll fs (substL a v l) = evalAll fs l)
    rfl rfl ?_ (fun _ ih => ih.1) (fun _ ih => ih.2) (fun _ ih => congrArg not ih) ⟨rfl, rfl⟩
    (fun c l hc hl => by simp only [substL, evalAny, evalAll, hc, hl, and_self])
  intro n
  show eval fs (if n = a then (if v = true then .tt else .ff) else .feat n) = fs n
  by_cases h : n = a
  · rw [if_pos h, h, ← hv]; cases fs a <;> rfl
  · rw [if_neg h]; rfl

theorem substAny_eval (fs : Nat → Bool) (a : Nat) (v : Bool) (hv : fs a = v) :
    (l : List Cfg) → evalAny fs (substL a v l) = evalAny fs l :=
  fun l => subst_eval fs a hv (.any l)

theorem substAll_eval (fs : Nat → Bool) (a : Nat) (v : Bool) (hv : fs a = v) :
    (l : List Cfg) → evalAll fs (substL a v l) = evalAll fs l :=
  fun l => subst_eval fs a hv (.all l)

theorem simp_eval (fs : Nat → Bool) : ∀ c, eval fs (simp c) = eval fs c := by
  refine Cfg.rec
    (motive_2 := fun l => evalAny fs (simpL l) = evalAny fs l ∧ evalAll fs (simpL l) = evalAll fs l)
    rfl rfl (fun _ => rfl) (fun _ ih => ih.1) (fun _ ih => ih.2) ?_ ⟨rfl, rfl⟩
    (fun c l hc hl => by simp only [simpL, evalAny, evalAll, hc, hl, and_self])
  intro c ih
  rw [simp, eval, ← ih]
  cases simp c <;> rfl

theorem simpAny_eval (fs : Nat → Bool) : (l : List Cfg) → evalAny fs (simpL l) = evalAny fs l :=
  fun l => simp_eval fs (.any l)

theorem simpAll_eval (fs : Nat → Bool) : (l : List Cfg) → evalAll fs (simpL l) = evalAll fs l :=
  fun l => simp_eval fs (.all l)

end Dm.Cfg
