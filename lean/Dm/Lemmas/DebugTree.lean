import Dm.Model.DebugTree

/- `pad` is a homomorphism over `++` (`pad_append`) and both `Padded` loops are `pad`
(`paddedWrite_eq_pad`, `paddedWrites_eq_pad`); the call-by-call field loop in closed form (`dmFieldsCode_flat/_pretty`).
The builders see their fields through the texts they write and the options through `alt` (`stdTuple_congr`,
`stdStruct_congr`); the crate's tuple builder is core's over fields handed `fieldOpts` (with `fieldOpts_of_rest_eq_zero`,
`map_fieldOpts`: when that makes no difference), hence `dmTuple_eq_stdTuple` and `Val.fmt_tuple_congr` for `Val.fmt`. -/
namespace Dm.Dbg

theorem pad_cons (st : Bool) (c : Char) (cs : List Char) :
    pad st (c :: cs)
      = ((if st then indent else []) ++ c :: (pad (c = '\n') cs).1, (pad (c = '\n') cs).2) := by
  cases st <;> rfl

/-- `pad` maps `++` to sequencing of writers over the one-bit `on_newline` state. -/
theorem pad_append (st : Bool) (a b : List Char) :
    pad st (a ++ b) = ((pad st a).1 ++ (pad (pad st a).2 b).1, (pad (pad st a).2 b).2) := by
  induction a generalizing st with
  | nil => rfl
  | cons c cs ih => simp only [List.cons_append, pad_cons, ih, List.append_assoc]

theorem splitInclusive_head_ne_nil {s p : List Char} {ps : List (List Char)}
    (h : splitInclusive s = p :: ps) : p ≠ [] := by
  revert h
  fun_cases splitInclusive s <;> intro h <;> cases h <;> exact List.cons_ne_nil _ _

theorem endsNl_cons (c : Char) {p : List Char} (hp : p ≠ []) : endsNl (c :: p) = endsNl p := by
  cases p with
  | nil => exact absurd rfl hp
  | cons d ds => simp [endsNl, List.getLast?_cons_cons]

/-- The loop of `Padded::write_str` computes the character-level specification. -/
theorem paddedWrite_eq_pad (st : Bool) (s : List Char) : paddedWrite st s = pad st s := by
  unfold paddedWrite
  fun_induction splitInclusive s generalizing st with
  | case1 => rfl
  | case2 cs ih => simp [pad_cons, paddedPieces, ih, endsNl]
  | case3 c cs hc hsp ih =>
    have h := ih false
    rw [hsp] at h
    simp [pad_cons, ← h, paddedPieces, endsNl, hc]
  | case4 c cs hc p ps hsp ih =>
    -- `c` continues the first piece of `cs`, which `ih false` writes un-indented
    have h := ih false
    rw [hsp] at h
    simp [pad_cons, ← h, paddedPieces, endsNl_cons c (splitInclusive_head_ne_nil hsp), hc]

/-- Any way of cutting a text into `write_str` calls gives the same output through `Padded`. -/
theorem paddedWrites_eq_pad (st : Bool) (chunks : List (List Char)) :
    paddedWrites st chunks = pad st chunks.flatten := by
  induction chunks generalizing st with
  | nil => rfl
  | cons s ss ih => simp only [paddedWrites, List.flatten_cons, pad_append, paddedWrite_eq_pad, ih]

theorem dmFieldsCode_flat {o : Opts} (h : o.alt = false) (i : Nat) (fs : List FieldScript) :
    dmFieldsCode o i fs
      = ((fs.map fun (s : FieldScript) (o : Opts) => (s o).flatten).zipIdx i |>.map fun (f, j) =>
          (if j = 0 then ['('] else [',', ' ']) ++ f o).flatten := by
  induction fs generalizing i with
  | nil => rfl
  | cons f r ih =>
    simp only [dmFieldsCode, h, Bool.false_eq_true, if_false, List.map_cons, List.zipIdx_cons,
      List.flatten_cons, ih (i + 1)]

theorem dmFieldsCode_pretty {o : Opts} (h : o.alt = true) (i : Nat) (fs : List FieldScript) :
    dmFieldsCode o i fs
      = (if fs.isEmpty ∨ i ≠ 0 then [] else ['(', '\n'])
        ++ ((fs.map fun (s : FieldScript) (o : Opts) => (s o).flatten).map fun f =>
              prettyField (f freshAlt)).flatten := by
  induction fs generalizing i with
  | nil => rfl
  | cons f r ih =>
    have hw : (paddedWrites true (f freshAlt ++ [[',', '\n']])).1
        = prettyField ((f freshAlt).flatten) := by
      rw [paddedWrites_eq_pad, List.flatten_append]
      rfl
    simp only [dmFieldsCode, h, if_true, hw, ih (i + 1), List.map_cons, List.flatten_cons]
    by_cases hi : i = 0 <;> simp [hi]

/-- A builder sees its fields only through the texts they write, and the options (apart from what
the fields make of them) only through `alt`. -/
theorem stdTuple_congr {name : List Char} {fs gs : List FieldFmt} {ex : Bool} {o o' : Opts}
    (ha : o.alt = o'.alt) (h : fs.map (· o) = gs.map (· o')) :
    stdTuple name fs ex o = stdTuple name gs ex o' := by
  -- normal form: the same builder over constant fields, the options cut down to `alt`
  have e : ∀ (fs : List FieldFmt) (o : Opts), stdTuple name fs ex o
      = stdTuple name ((fs.map (· o)).map fun t _ => t) ex ⟨o.alt, 0⟩ := by
    intro fs o
    simp only [stdTuple, List.map_map, List.isEmpty_map, List.length_map, List.zipIdx_map]
    rfl
  rw [e fs, e gs, h, ha]

theorem stdStruct_congr {name : List Char} {ns : List (List Char)} {fs gs : List FieldFmt}
    {ex : Bool} {o o' : Opts} (ha : o.alt = o'.alt) (h : fs.map (· o) = gs.map (· o')) :
    stdStruct name (ns.zip fs) ex o = stdStruct name (ns.zip gs) ex o' := by
  have e : ∀ (fs : List FieldFmt) (o : Opts), stdStruct name (ns.zip fs) ex o
      = stdStruct name (ns.zip ((fs.map (· o)).map fun t _ => t)) ex ⟨o.alt, 0⟩ := by
    intro fs o
    simp only [stdStruct, List.map_map, List.zip_map_right, List.isEmpty_map, List.zipIdx_map]
    rfl
  rw [e fs, e gs, h, ha]

/-- The options under which a tuple builder formats its fields: the crate's (`dm`) starts afresh in
pretty mode, core's hands the caller's on. -/
def fieldOpts (dm : Bool) (o : Opts) : Opts := if dm && o.alt then freshAlt else o

/-- The crate's tuple builder is core's over fields that are handed `fieldOpts true o` in place of `o`: the
only difference between the two. -/
theorem dmTuple_eq_stdTuple_fieldOpts (name : List Char) (fs : List FieldFmt) (ex : Bool) (o : Opts) :
    dmTuple name fs ex o = stdTuple name (fs.map fun f _ => f (fieldOpts true o)) ex o := by
  rcases o with ⟨_ | _, r⟩ <;>
    simp only [dmTuple, stdTuple, fieldOpts, List.map_map, List.isEmpty_map, List.length_map,
      List.zipIdx_map, Bool.false_eq_true, if_false, if_true, Bool.and_true, Bool.and_false] <;> rfl

theorem fieldOpts_of_rest_eq_zero {dm : Bool} {o : Opts} (h : o.rest = 0) : fieldOpts dm o = o := by
  obtain ⟨alt, rest⟩ := o
  cases h
  cases dm <;> cases alt <;> rfl

/-- Fields that ignore everything but `alt` in pretty mode do not see the difference. -/
theorem map_fieldOpts {fs : List FieldFmt} {o : Opts}
    (h : o.alt = true → fs.map (· freshAlt) = fs.map (· o)) (dm : Bool) :
    fs.map (· (fieldOpts dm o)) = fs.map (· o) := by
  unfold fieldOpts
  split
  · rename_i hc; exact h (Bool.and_eq_true_iff.1 hc).2
  · rfl

theorem dmTuple_eq_stdTuple {name : List Char} {fs : List FieldFmt} {ex : Bool} {o : Opts}
    (h : o.alt = true → fs.map (· freshAlt) = fs.map (· o)) :
    dmTuple name fs ex o = stdTuple name fs ex o := by
  rw [dmTuple_eq_stdTuple_fieldOpts]
  exact stdTuple_congr rfl (by rw [List.map_map]; exact map_fieldOpts h true)

/-- A node's text depends on its children only through the texts they write under the options the
builder hands them, and on the caller's options only through `alt`. -/
theorem Val.fmt_tuple_congr {n : List Char} {ex d d' : Bool} {vs vs' : Vals} {o o' : Opts}
    (ha : o.alt = o'.alt)
    (h : (vs.fmts d).map (· (fieldOpts d o)) = (vs'.fmts d').map (· (fieldOpts d' o'))) :
    (Val.tuple n vs ex).fmt d o = (Val.tuple n vs' ex).fmt d' o' := by
  have e : ∀ (d : Bool) (vs : Vals) (o : Opts), (Val.tuple n vs ex).fmt d o
      = stdTuple n ((vs.fmts d).map fun f _ => f (fieldOpts d o)) ex o := by
    intro d vs o
    cases d
    · exact stdTuple_congr rfl (by rw [List.map_map]; rfl)
    · exact dmTuple_eq_stdTuple_fieldOpts ..
  rw [e, e]
  exact stdTuple_congr ha (by rw [List.map_map, List.map_map]; exact h)

end Dm.Dbg
