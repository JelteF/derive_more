import Dm.Model.ErrorSpec
import Dm.Lemmas.List

/-
`parse_fields` of `derive(Error)` against the documented rules. The code selects among the enabled
fields paired with their position in that list (`(enabledFields sh).zipIdx`, entries `((i, f), k)`) and
returns `k`; the rules select among the enabled fields and return the position `i` among all fields.
Both are `pick` over the same two filtered lists under the two projections, and `allIdx sh k = some i`
for every entry: that gives `parseField_spec`. The two-field inference `inferSource` is compared with
its all-positions reading separately; and every position either of them returns is in range.
-/
namespace Dm.Err

theorem zeroOrOne_map {α β : Type} (f : α → β) (l : List α) :
    zeroOrOne (l.map f) = (zeroOrOne l).map (Option.map f) := by
  rcases l with _ | ⟨a, _ | ⟨b, r⟩⟩ <;> rfl

/-- Selecting among the enabled fields by *enabled position* and converting that position back
yields the same all-field position as selecting among (position, field) pairs directly. -/
theorem zeroOrOne_zipIdx (l : List (Nat × FieldE)) (p : (Nat × FieldE) → Bool) :
    (zeroOrOne (l.zipIdx.filter fun x => p x.1)).map
        (fun r => r.bind fun x => (l[x.2]?).map (·.1))
      = (zeroOrOne ((l.filter p).map (·.1))).map id := by
  rw [← ListFacts.filter_zipIdx_fst l p, List.map_map]
  generalize hE : (l.zipIdx.filter fun x => p x.1) = E
  rcases E with _ | ⟨a, _ | ⟨b, r⟩⟩
  · rfl
  · have ha : a ∈ l.zipIdx := (List.mem_filter.1 (hE ▸ List.mem_cons_self)).1
    exact congrArg (fun o => Except.ok (o.map (·.1))) (List.mem_zipIdx_iff_getElem?.1 ha)
  · rfl

theorem pick_mem {e i : List Nat} {j : Nat} (h : pick e i = .ok (some j)) : j ∈ e ∨ j ∈ i := by
  revert h
  fun_cases pick e i <;> intro h <;> cases h
  · exact .inl List.mem_cons_self
  · exact .inr List.mem_cons_self

theorem pick_map_bind_eq_pick_map {α : Type} {f h : α → Nat} {g : Nat → Option Nat} (e i : List α)
    (H : ∀ y, y ∈ e ∨ y ∈ i → g (f y) = some (h y)) :
    (pick (e.map f) (i.map f)).map (·.bind g) = pick (e.map h) (i.map h) := by
  rcases e with _ | ⟨a, _ | ⟨b, r⟩⟩
  · rcases i with _ | ⟨c, _ | ⟨d, r⟩⟩
    · rfl
    · exact congrArg Except.ok (H c (.inr List.mem_cons_self))
    · rfl
  · exact congrArg Except.ok (H a (.inl List.mem_cons_self))
  · rfl

theorem allIdx_of_mem_zipIdx {sh : Shape} {y : (Nat × FieldE) × Nat} (hy : y ∈ (enabledFields sh).zipIdx) :
    allIdx sh y.2 = some y.1.1 := by
  rw [allIdx, List.mem_zipIdx_iff_getElem?.1 hy]; rfl

/-- An entry of `field_indexes` is the position of an enabled field. -/
theorem mem_enabledFields_of_allIdx {sh : Shape} {k i : Nat} (h : allIdx sh k = some i) : ∃ f, (i, f) ∈ enabledFields sh := by
  obtain ⟨x, hk, rfl⟩ := Option.map_eq_some_iff.1 h
  exact ⟨x.2, List.mem_of_getElem? hk⟩

theorem lt_of_mem_enabledFields {sh : Shape} {i : Nat} {f : FieldE} (h : (i, f) ∈ enabledFields sh) :
    i < sh.fields.length := by
  obtain ⟨y, hy, hyx⟩ := List.mem_map.1 h
  cases hyx
  exact (List.getElem?_eq_some_iff.1 (List.mem_zipIdx_iff_getElem?.1 (List.mem_filter.1 hy).1)).1

/-- The code and the rules select among the same candidates: indexed enabled fields `((i, f), k)`, of
which the code reads `k` and the rules read `i`. -/
theorem parseField_cands (sh : Shape) (w : Which) :
    ∃ E I : List ((Nat × FieldE) × Nat), (∀ y, y ∈ E ∨ y ∈ I → y ∈ (enabledFields sh).zipIdx) ∧
      parseField sh w = pick (E.map (·.2)) (I.map (·.2)) ∧
      explicitCands sh w = E.map (·.1.1) ∧ inferredCands sh w = I.map (·.1.1) := by
  refine ⟨(enabledFields sh).zipIdx.filter fun x => decide (w.value (metaOf x.1.2.attr) = some true),
    (enabledFields sh).zipIdx.filter fun x =>
      w.value (metaOf x.1.2.attr) = none && validDefault sh.named w x.1.2 sh.fields.length,
    fun y hy => hy.elim (fun h => (List.mem_filter.1 h).1) (fun h => (List.mem_filter.1 h).1), ?_, ?_, ?_⟩
  · dsimp only [parseField]
    generalize List.filter _ _ = E
    generalize List.filter _ _ = I
    rcases E with _ | ⟨a, _ | ⟨b, r⟩⟩
    · rcases I with _ | ⟨c, _ | ⟨d, r⟩⟩ <;> rfl
    · rfl
    · rfl
  · rw [explicitCands, ← ListFacts.filter_zipIdx_fst, List.map_map]; rfl
  · rw [inferredCands, ← ListFacts.filter_zipIdx_fst, List.map_map]; rfl

theorem parseField_spec (sh : Shape) (w : Which) :
    (parseField sh w).map (fun k => k.bind (allIdx sh))
      = pick (explicitCands sh w) (inferredCands sh w) := by
  obtain ⟨E, I, hm, hp, he, hi⟩ := parseField_cands sh w
  rw [hp, he, hi]
  exact pick_map_bind_eq_pick_map E I fun y hy => allIdx_of_mem_zipIdx (hm y hy)

theorem parseField_lt {sh : Shape} {w : Which} {k : Nat} (h : parseField sh w = .ok (some k)) :
    k < (enabledFields sh).length := by
  obtain ⟨E, I, hm, hp, -, -⟩ := parseField_cands sh w
  have lt : ∀ y, y ∈ E ∨ y ∈ I → y.2 < (enabledFields sh).length := fun y hy =>
    (List.getElem?_eq_some_iff.1 (List.mem_zipIdx_iff_getElem?.1 (hm y hy))).1
  rcases pick_mem (hp ▸ h) with h | h <;> obtain ⟨y, hy, rfl⟩ := List.mem_map.1 h
  · exact lt y (.inl hy)
  · exact lt y (.inr hy)

/-- The inference for two-field tuples agrees with its all-positions reading: the position found by
`findIdx?` holds the field found by `find?`. -/
theorem inferSource_spec (sh : Shape) (b : Option Nat) :
    (inferSource sh b).bind (allIdx sh) = otherOfTwo sh (b.bind (allIdx sh)) := by
  unfold inferSource otherOfTwo
  by_cases h2 : sh.fields.length ≠ 2
  · rw [if_pos h2, if_pos h2]; rfl
  rw [if_neg h2, if_neg h2]
  cases b with
  | none => rfl
  | some bk =>
    dsimp only [Option.bind_some]
    cases allIdx sh bk with
    | none => rfl
    | some bAll =>
      dsimp only
      rw [List.find?_eq_bind_findIdx?_getElem?]
      cases hfi : (enabledFields sh).findIdx? _ with
      | none => rfl
      | some k =>
        have hp := List.of_findIdx?_eq_some hfi
        dsimp only [Option.bind_some]
        cases hk : (enabledFields sh)[k]? with
        | none => rfl
        | some x =>
          rw [hk] at hp
          have hi : x.1 = (bAll + 1) % 2 := of_decide_eq_true hp
          dsimp only
          by_cases hs : (metaOf x.2.attr).source ≠ some false
          · rw [if_pos hs, if_pos hs, Option.bind_some, allIdx, hk, ← hi]; rfl
          · rw [if_neg hs, if_neg hs]; rfl

theorem inferSource_lt {sh : Shape} {b : Option Nat} {k : Nat} (h : inferSource sh b = some k) :
    k < (enabledFields sh).length := by
  revert h
  fun_cases inferSource sh b <;> intro h <;> cases h
  exact (List.getElem?_eq_some_iff.1 ‹_›).1

end Dm.Err
