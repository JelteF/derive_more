import Dm.Lemmas.FmtSpecRoundTrip

/-
Round trip for placeholders and whole literals: printing a canonical derivation and parsing it back with derive_more's
parser gives exactly the formats of the derivation — for every derivation, of any length.  The loop lemma assumes of
the placeholders only that each reads back in front of what follows it; `maybeFormat_render` supplies that, under
`Sane` alone for a placeholder without `:format_spec`.
-/
namespace Dm.Fmt

/-- A printed placeholder parses back to its own format, whatever follows (up to the alignment condition). The facts
`Sane2` are needed only for a placeholder that has a spec. -/
theorem format_render {cc : CharClasses} (hs : Sane cc) {p : PhA} (hp : p.WF cc) {tail : List Char}
    (h2 : p.spec ≠ none → Sane2 cc) (hal : p.AlignOk tail) : format cc (p.render ++ tail) = some (tail, p.toFormat) := by
  have hcl : Closer cc (p.ws ++ '}' :: tail) := ⟨p.ws, tail, rfl, hp.ws⟩
  rw [PhA.render_append]
  unfold PhA.toFormat
  cases hsp : p.spec with
  | none =>
    refine format_eq_some_iff.mpr ⟨_, _, _, rfl, argStage_render hs hp.arg (hcl.hd.mono fun _ h => h.argStop hs), ?_,
      skipWs_closer hs tail hp.ws⟩
    exact specStage_of_head (hcl.hd.mono fun _ h => (h.ne_colon_lbrace hs).1)
  | some s =>
    have h2 := h2 (hsp ▸ Option.some_ne_none s)
    refine format_eq_some_iff.mpr ⟨_, _, _, rfl,
      argStage_render hs hp.arg (Hd.cons_iff.mpr (argStop_of_special h2 (by decide))), ?_,
      skipWs_closer hs tail hp.ws⟩
    exact specStage_of_formatSpec (formatSpec_render hs h2 (hp.spec s hsp) hcl
      (fun ha => align_condition h2 (hp.spec s hsp) hp.ws (hal s hsp ha)))

theorem maybeFormat_of_format {cc : CharClasses} {s0 r : List Char} {f : Format}
    (hf : format cc ('{' :: s0) = some (r, f)) (h0 : Hd (· ≠ '{') s0) : maybeFormat cc ('{' :: s0) = some (r, some f) := by
  unfold maybeFormat
  split
  · next r' e => cases e; exact absurd rfl (Hd.cons_iff.mp h0)
  · next r' e => cases e
  · rw [hf]

theorem maybeFormat_render {cc : CharClasses} (hs : Sane cc) {p : PhA} (hp : p.WF cc) {tail : List Char}
    (h2 : p.spec ≠ none → Sane2 cc) (hal : p.AlignOk tail) :
    maybeFormat cc (p.render ++ tail) = some (tail, some p.toFormat) := by
  have hf := format_render hs hp h2 hal
  rw [PhA.render_append] at hf ⊢
  -- the second character is not `{`
  refine maybeFormat_of_format hf (Hd.append ?_ (Hd.append ?_ ?_))
  · refine Hd.optRender fun a ha => ?_
    obtain ⟨c, t, e, h, _⟩ := ArgA.render_shape (hp.arg a ha)
    rw [e]
    exact Hd.cons_iff.mpr (h.ne_lbrace hs)
  · cases p.spec with
    | none => exact Hd.nil
    | some s => exact Hd.cons_iff.mpr (by decide)
  · exact (Closer.hd ⟨p.ws, tail, rfl, hp.ws⟩).mono fun _ h => (h.ne_colon_lbrace hs).2

/-- Canonical derivations: no two adjacent text pieces (they would be one `text`). -/
def Canonical : List Piece → Prop
  | [] => True
  | [_] => True
  | .text _ :: .text _ :: _ => False
  | _ :: q :: rest => Canonical (q :: rest)

def NoSpec : Piece → Prop
  | .ph p => p.spec = none
  | _ => True

/-- Every placeholder of the derivation satisfies the alignment condition with respect to what is printed after it. -/
def SpecCanonical : List Piece → Prop
  | [] => True
  | .ph p :: rest => p.AlignOk (renderAll rest) ∧ SpecCanonical rest
  | _ :: rest => SpecCanonical rest

theorem Canonical.tail {p : Piece} {ps : List Piece} (h : Canonical (p :: ps)) : Canonical ps := by
  cases ps with
  | nil => trivial
  | cons q rest =>
    -- the four equations of `Canonical`: `[]` and `[_]` do not apply, two texts give `False`, else it is the tail's
    unfold Canonical at h
    split at h
    · rename_i e; cases e
    · rename_i e; cases e
    · exact h.elim
    · rename_i e; cases e; exact h

theorem SpecCanonical.tail {p : Piece} {ps : List Piece} (h : SpecCanonical (p :: ps)) : SpecCanonical ps := by
  cases p with
  | ph q => exact h.2
  | _ => exact h

theorem SpecCanonical.of_noSpec {ps : List Piece} (h : ∀ p ∈ ps, NoSpec p) : SpecCanonical ps := by
  induction ps with
  | nil => trivial
  | cons p ps ih =>
    have ih := ih fun q hq => h q (List.mem_cons_of_mem _ hq)
    cases p with
    | ph q =>
      have hq : q.spec = none := h _ (List.mem_cons_self ..)
      exact ⟨fun s hs => (by rw [hq] at hs; cases hs), ih⟩
    | _ => exact ih

theorem renderAll_cons (p : Piece) (ps : List Piece) : renderAll (p :: ps) = p.render ++ renderAll ps := rfl

theorem Piece.hd_render {p : Piece} (hp : ∀ cs, p ≠ .text cs) (r : List Char) : Hd (isBrace · = true) (p.render ++ r) := by
  cases p with
  | text cs => exact absurd rfl (hp cs)
  | _ => exact Hd.cons_iff.mpr (by decide)

theorem Canonical.hd_next {cs : List Char} {ps : List Piece} (h : Canonical (.text cs :: ps)) :
    Hd (isBrace · = true) (renderAll ps) := by
  cases ps with
  | nil => exact Hd.nil
  | cons q qs => exact Piece.hd_render (fun ds e => by subst e; exact h) _

/-- The placeholders enter only through what `maybeFormat` returns on each of them in front of a tail that meets its
alignment condition; which facts about the character tables that takes is the caller's business. -/
theorem formatLoop_render {cc : CharClasses} {ps : List Piece} {fuel : Nat} (hfuel : (renderAll ps).length < fuel)
    (hcan : Canonical ps) (hsc : SpecCanonical ps) (htext : ∀ cs, .text cs ∈ ps → (Piece.text cs).WF cc)
    (hph : ∀ p, .ph p ∈ ps → ∀ tail, p.AlignOk tail →
      maybeFormat cc (p.render ++ tail) = some (tail, some p.toFormat)) :
    formatLoop cc fuel (renderAll ps) = (formatsOf ps, []) := by
  induction ps generalizing fuel with
  | nil => exact formatLoop_nil cc fuel
  | cons p ps ih =>
    cases fuel with
    | zero => cases hfuel
    | succ f =>
      -- every piece prints at least one character, so a unit of fuel per piece is enough
      have hne : p.render ≠ [] := by
        cases p with
        | text cs => exact (htext cs (List.mem_cons_self ..)).1
        | _ => exact List.cons_ne_nil _ _
      have hl : (renderAll ps).length < f := by
        rw [renderAll_cons, List.length_append] at hfuel
        exact Nat.lt_of_lt_of_le (Nat.lt_add_of_pos_left (List.length_pos_iff.mpr hne)) (Nat.le_of_lt_succ hfuel)
      have ih := ih hl hcan.tail hsc.tail (fun cs h => htext cs (List.mem_cons_of_mem _ h))
        (fun q h => hph q (List.mem_cons_of_mem _ h))
      rw [renderAll_cons]
      cases p with
      | lbrace => rw [formatLoop_of_maybeFormat (f := none) (r := renderAll ps) f rfl, ih]; rfl
      | rbrace => rw [formatLoop_of_maybeFormat (f := none) (r := renderAll ps) f rfl, ih]; rfl
      | ph q =>
        rw [show (Piece.ph q).render = q.render from rfl,
          formatLoop_of_maybeFormat f (hph q (List.mem_cons_self ..) _ hsc.1), ih]
        rfl
      | text cs =>
        obtain ⟨_, hcs⟩ := htext cs (List.mem_cons_self ..)
        have hm : maybeFormat cc (cs ++ renderAll ps) = none := by
          cases cs with
          | nil => exact absurd rfl hne
          | cons c cs' => exact maybeFormat_none_of_head cc (Hd.cons_iff.mpr (hcs c (List.mem_cons_self ..)))
        show formatLoop cc (f + 1) (cs ++ renderAll ps) = _
        rw [formatLoop_of_text f hm (text_eq_some_iff.mpr ⟨rfl, hne, hcs, hcan.hd_next⟩), ih]; rfl

/-- **Round trip for a whole literal**, in the form both C03 theorems are instances of. -/
theorem formatString_render {cc : CharClasses} {ps : List Piece} (hcan : Canonical ps) (hsc : SpecCanonical ps)
    (htext : ∀ cs, .text cs ∈ ps → (Piece.text cs).WF cc)
    (hph : ∀ p, .ph p ∈ ps → ∀ tail, p.AlignOk tail → maybeFormat cc (p.render ++ tail) = some (tail, some p.toFormat)) :
    formatString cc (renderAll ps) = some (formatsOf ps) := by
  cases ps with
  | nil => rfl
  | cons p rest =>
    cases p with
    | text cs =>
      obtain ⟨hne, hcs⟩ := htext cs (List.mem_cons_self ..)
      exact formatString_of_text_some (text_eq_some_iff.mpr ⟨rfl, hne, hcs, hcan.hd_next⟩)
        (formatLoop_render (Nat.lt_succ_self _) hcan.tail hsc.tail
          (fun cs h => htext cs (List.mem_cons_of_mem _ h)) (fun q h => hph q (List.mem_cons_of_mem _ h)))
    | _ =>
      exact formatString_of_text_none (text_none_of_head (Piece.hd_render (by intro _ e; cases e) _))
        (formatLoop_render (Nat.lt_succ_self _) hcan hsc htext hph)

end Dm.Fmt
