import Dm.Model.TypedAttr
import Dm.Lemmas.MergeFold

/-
The parsers of `mod attr` one by one: what an accepted attribute looks like (`*_some`), and that off the keywords
`forward` / `skip` / `ignore` both `Either` chains are `Types`. Then `parse_attrs_with` and TryFrom's `parseRepr` as
instances of `mergeFold`: two or more attributes are type lists and mean their concatenation (`parseAttrs_many`,
`parseRepr_many`).
-/
namespace Dm.TypedAttr

/-- The two `Either` chains of `mod attr`, for either setting of the legacy switch. -/
inductive IsConvParser : (Attr → Option Conv) → Prop
  | conversion (l : Bool) : IsConvParser (pConversion l)
  | field (l : Bool) : IsConvParser (pFieldConversion l)

theorem pTypes_some {l : Bool} {a : Attr} {c : Conv} (h : pTypes l a = some c) :
    ∃ args, a = .list args ∧ c = .types args.items ∧ allTypes args.items = true
      ∧ (l && startsWithTypes args.items) = false ∧ (args.items.isEmpty && args.trailing) = false := by
  revert h
  fun_cases pTypes l a <;> intro h <;> cases h
  next args h1 h2 h3 => exact ⟨args, rfl, rfl, h3, eq_false_of_ne_true h1, eq_false_of_ne_true h2⟩

theorem orElse_some {l r : Attr → Option Conv} {a : Attr} {c : Conv} (h : orElse l r a = some c) :
    l a = some c ∨ (l a = none ∧ r a = some c) := by
  revert h
  fun_cases orElse l r a <;> intro h
  next hl => cases h; exact .inl hl
  next hl => exact .inr ⟨hl, h⟩

theorem pEmpty_some {a : Attr} {c : Conv} (h : pEmpty a = some c) : a = .bare ∧ c = .empty := by
  revert h
  fun_cases pEmpty a <;> intro h <;> cases h
  exact ⟨rfl, rfl⟩

theorem pForward_some {a : Attr} {c : Conv} (h : pForward a = some c) :
    a = .list ⟨[.word .forward], false⟩ ∧ c = .forward := by
  revert h
  fun_cases pForward a <;> intro h <;> cases h
  exact ⟨rfl, rfl⟩

theorem pSkip_some {a : Attr} {c : Conv} (h : pSkip a = some c) :
    (a = .list ⟨[.word .skip], false⟩ ∨ a = .list ⟨[.word .ignore], false⟩) ∧ c = .skip := by
  revert h
  fun_cases pSkip a <;> intro h <;> cases h
  · exact ⟨.inl rfl, rfl⟩
  · exact ⟨.inr rfl, rfl⟩

theorem pConversion_some {l : Bool} {a : Attr} {c : Conv} (h : pConversion l a = some c) :
    (a = .list ⟨[.word .forward], false⟩ ∧ c = .forward)
    ∨ (∃ args, a = .list args ∧ c = .types args.items ∧ allTypes args.items = true) := by
  rcases orElse_some h with h | ⟨_, h⟩
  · exact Or.inl (pForward_some h)
  · obtain ⟨args, h1, h2, h3, _⟩ := pTypes_some h
    exact Or.inr ⟨args, h1, h2, h3⟩

theorem convParser_some {p : Attr → Option Conv} (hp : IsConvParser p) {a : Attr} {c : Conv} (h : p a = some c) :
    (a = .bare ∧ c = .empty)
    ∨ ((a = .list ⟨[.word .skip], false⟩ ∨ a = .list ⟨[.word .ignore], false⟩) ∧ c = .skip)
    ∨ (a = .list ⟨[.word .forward], false⟩ ∧ c = .forward)
    ∨ (∃ args, a = .list args ∧ c = .types args.items ∧ allTypes args.items = true) := by
  cases hp with
  | conversion l => exact Or.inr (Or.inr (pConversion_some h))
  | field l =>
    rcases orElse_some h with h | ⟨_, h⟩
    · exact Or.inl (pEmpty_some h)
    · rcases orElse_some h with h | ⟨_, h⟩
      · exact Or.inr (Or.inl (pSkip_some h))
      · exact Or.inr (Or.inr (pConversion_some h))

/-! Off the three keywords, both chains are `Types`. -/

theorem pForward_none_of_ne {items : List Item} (h : items ≠ [.word .forward]) (t : Bool) :
    pForward (.list ⟨items, t⟩) = none := by
  cases hp : pForward (.list ⟨items, t⟩) with
  | none => rfl
  | some c => cases (pForward_some hp).1; exact absurd rfl h

theorem pSkip_none_of_ne {items : List Item} (h1 : items ≠ [.word .skip]) (h2 : items ≠ [.word .ignore]) (t : Bool) :
    pSkip (.list ⟨items, t⟩) = none := by
  cases hp : pSkip (.list ⟨items, t⟩) with
  | none => rfl
  | some c =>
    rcases (pSkip_some hp).1 with h | h <;> cases h
    · exact absurd rfl h1
    · exact absurd rfl h2

theorem pConversion_list (l : Bool) {items : List Item} (hF : items ≠ [.word .forward]) (t : Bool) :
    pConversion l (.list ⟨items, t⟩) = pTypes l (.list ⟨items, t⟩) := by
  rw [pConversion, orElse, pForward_none_of_ne hF]

theorem pFieldConversion_list (l : Bool) {items : List Item} (hF : items ≠ [.word .forward])
    (hS : items ≠ [.word .skip]) (hI : items ≠ [.word .ignore]) (t : Bool) :
    pFieldConversion l (.list ⟨items, t⟩) = pTypes l (.list ⟨items, t⟩) := by
  rw [pFieldConversion, orElse, orElse, orElse, pForward_none_of_ne hF, pSkip_none_of_ne hS hI]; rfl

/-- The type list, when the attribute means one. -/
def Conv.tys? : Conv → Option (List Item)
  | .types xs => some xs
  | _ => none

theorem Conv.oneKind : mergeFold.OneKind Conv.merge Conv.tys? Conv.types (· ++ ·) [] where
  merge_eq a b := by cases a <;> cases b <;> rfl
  proj_eq_some_iff c xs := by cases c <;> simp [Conv.tys?]
  unit_left := List.nil_append

theorem merge_some {a b c : Conv} (h : a.merge b = some c) :
    ∃ xs ys, a = .types xs ∧ b = .types ys ∧ c = .types (xs ++ ys) := by
  rw [Conv.oneKind.merge_eq] at h
  obtain ⟨xs, hx, h⟩ := Option.bind_eq_some_iff.mp h
  obtain ⟨ys, hy, h⟩ := Option.map_eq_some_iff.mp h
  exact ⟨xs, ys, (Conv.oneKind.proj_eq_some_iff a xs).mp hx, (Conv.oneKind.proj_eq_some_iff b ys).mp hy, h.symm⟩

theorem parseAttrsFrom_eq (p : Attr → Option Conv) (acc : Option Conv) (l : List Attr) :
    parseAttrsFrom p acc l = mergeFold p Conv.merge acc l := by
  fun_induction parseAttrsFrom p acc l <;> simp only [mergeFold, *]

/-- The attribute is a type list under `p`. -/
def typesOf (p : Attr → Option Conv) (a : Attr) : Option (List Item) := (p a).bind Conv.tys?

theorem typesOf_eq_some_iff {p : Attr → Option Conv} {a : Attr} {xs : List Item} :
    typesOf p a = some xs ↔ p a = some (.types xs) := by
  cases h : p a <;> simp [typesOf, h, Conv.oneKind.proj_eq_some_iff]

/-- The product of `Conv.oneKind`: core's `List.foldl_append_eq_append` at `f := id`. -/
theorem typeLists_product {α : Type} (cs : List (List α)) (acc : List α) :
    cs.foldl (· ++ ·) acc = acc ++ cs.flatten :=
  (List.foldl_append_eq_append (f := id)).trans (by rw [List.map_id])

theorem parseAttrs_nil (p : Attr → Option Conv) : parseAttrs p [] = some none := rfl

theorem parseAttrs_single (p : Attr → Option Conv) (a : Attr) : parseAttrs p [a] = (p a).map some := by
  rw [parseAttrs, parseAttrsFrom_eq, mergeFold.single]

theorem parseAttrs_many (p : Attr → Option Conv) (a b : Attr) (rest : List Attr) :
    parseAttrs p (a :: b :: rest) =
      if (a :: b :: rest).all (fun x => (typesOf p x).isSome) then
        some (some (.types ((a :: b :: rest).filterMap (typesOf p)).flatten))
      else none := by
  rw [parseAttrs, parseAttrsFrom_eq, mergeFold.many Conv.oneKind]
  simp only [typeLists_product, List.nil_append]
  rfl

theorem pRepr_discriminant_iff {a : Attr} : pRepr a = some .discriminant ↔ a = .list ⟨[.word .repr], false⟩ := by
  refine ⟨?_, fun h => h ▸ rfl⟩
  fun_cases pRepr a <;> intro h <;> cases h
  rfl

def ReprConv.tys? : ReprConv → Option (List Item)
  | .types xs => some xs
  | _ => none

theorem ReprConv.oneKind : mergeFold.OneKind ReprConv.merge ReprConv.tys? ReprConv.types (· ++ ·) [] where
  merge_eq a b := by cases a <;> cases b <;> rfl
  proj_eq_some_iff c xs := by cases c <;> simp [ReprConv.tys?]
  unit_left := List.nil_append

theorem parseReprFrom_eq (acc : Option ReprConv) (l : List Attr) :
    parseReprFrom acc l = mergeFold pRepr ReprConv.merge acc l := by
  fun_induction parseReprFrom acc l <;> simp only [mergeFold, *]

theorem parseRepr_single (a : Attr) : parseRepr [a] = (pRepr a).map some := by
  rw [parseRepr, parseReprFrom_eq, mergeFold.single]

theorem parseRepr_many (a b : Attr) (rest : List Attr) :
    parseRepr (a :: b :: rest) =
      if (a :: b :: rest).all (fun x => ((pRepr x).bind ReprConv.tys?).isSome) then
        some (some (.types ((a :: b :: rest).filterMap fun x => (pRepr x).bind ReprConv.tys?).flatten))
      else none := by
  rw [parseRepr, parseReprFrom_eq, mergeFold.many ReprConv.oneKind]
  simp only [typeLists_product, List.nil_append]

end Dm.TypedAttr
