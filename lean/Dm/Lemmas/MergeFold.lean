/-
`ParseMultiple::parse_attrs_with` (`utils.rs`) once, for any attribute type (`mergeFold`). The model's `parseAttrsFrom`,
`parseReprFrom` and `parseIntoStructFrom` are it (`TypedAttr`, `TypedInto`) with a merge of one shape (`OneKind`: one kind
of value merges, by an operation with a left unit); `parseIntoFieldFrom` has a merge of another shape and is not
connected. Under `OneKind`, two or more attributes are accepted exactly when all are of the mergeable kind and mean the
product of their values (`many`), in any order up to that of the factors (`perm`).
-/
namespace Dm

def mergeFold {α β : Type} (p : α → Option β) (m : β → β → Option β) : Option β → List α → Option (Option β)
  | acc, [] => some acc
  | none, a :: rest =>
    match p a with
    | some c => mergeFold p m (some c) rest
    | none => none
  | some prev, a :: rest =>
    match p a with
    | some c =>
      match m prev c with
      | some r => mergeFold p m (some r) rest
      | none => none
    | none => none

namespace mergeFold
variable {α β M : Type} (p : α → Option β) (m : β → β → Option β)

theorem single (a : α) : mergeFold p m none [a] = (p a).map some := by
  rw [mergeFold]
  cases p a <;> rfl

theorem pair (a b : α) :
    mergeFold p m none [a, b] = (p a).bind fun c => (p b).bind fun d => (m c d).map some := by
  simp only [mergeFold]
  cases p a <;> cases p b <;> rfl

/-- Exactly one kind of value merges: the values `ι x`, which `π` recognises; on them `m` is the operation `op`,
of which only a left unit `e` is asked. (Type lists and conversion lists under concatenation.) -/
structure OneKind (m : β → β → Option β) (π : β → Option M) (ι : M → β) (op : M → M → M) (e : M) : Prop where
  merge_eq : ∀ a b, m a b = (π a).bind fun x => (π b).map fun y => ι (op x y)
  proj_eq_some_iff : ∀ c x, π c = some x ↔ c = ι x
  unit_left : ∀ x, op e x = x

variable {p m} {π : β → Option M} {ι : M → β} {op : M → M → M} {e : M}

theorem eq_of_some_start (h : OneKind m π ι op e) (x : M) (l : List α) :
    mergeFold p m (some (ι x)) l =
      if l.all (fun a => ((p a).bind π).isSome) then some (some (ι ((l.filterMap fun a => (p a).bind π).foldl op x)))
      else none := by
  induction l generalizing x with
  | nil => rfl
  | cons a rest ih =>
    rw [mergeFold, List.all_cons, List.filterMap_cons]
    cases p a with
    | none => rfl
    | some c =>
      simp only [h.merge_eq, (h.proj_eq_some_iff _ x).mpr rfl, Option.bind_some]
      cases π c with
      | none => rfl
      | some y => exact ih _

/-- Two attributes or more: all of the mergeable kind, meaning the product. -/
theorem many (h : OneKind m π ι op e) (a b : α) (rest : List α) :
    mergeFold p m none (a :: b :: rest) =
      if (a :: b :: rest).all (fun a => ((p a).bind π).isSome) then
        some (some (ι (((a :: b :: rest).filterMap fun a => (p a).bind π).foldl op e)))
      else none := by
  rw [mergeFold, List.all_cons, List.filterMap_cons]
  cases p a with
  | none => rfl
  | some c =>
    simp only [Option.bind_some]
    cases hc : π c with
    | none =>
      -- the first value is of another kind: the second attribute is unreadable or the merge is refused
      rw [mergeFold]
      cases p b with
      | none => rfl
      | some d => simp only [h.merge_eq, hc, Option.bind_none]; rfl
    | some x =>
      rw [(h.proj_eq_some_iff c x).mp hc, eq_of_some_start h, List.foldl_cons, h.unit_left]
      rfl

/-- Two attributes or more are accepted only when every one of them is of the mergeable kind. -/
theorem many_some (h : OneKind m π ι op e) {a b : α} {rest : List α} {r : Option β}
    (hr : mergeFold p m none (a :: b :: rest) = some r) : ∀ x ∈ a :: b :: rest, ∃ y, p x = some (ι y) := by
  rw [many h] at hr
  by_cases hall : ((a :: b :: rest).all fun x => ((p x).bind π).isSome) = true
  · intro x hx
    obtain ⟨y, hy⟩ := Option.isSome_iff_exists.mp (List.all_eq_true.mp hall x hx)
    obtain ⟨c, hc, hπ⟩ := Option.bind_eq_some_iff.mp hy
    exact ⟨y, hc.trans (congrArg some ((h.proj_eq_some_iff c y).mp hπ))⟩
  · rw [if_neg hall] at hr; cases hr

/-- Reordering: accepted in one order, accepted in every order, with the same meaning up to `R`, any relation
that holds between the products of a list of factors and of a permutation of it. -/
theorem perm (h : OneKind m π ι op e) {R : M → M → Prop}
    (hR : ∀ {cs cs' : List M}, cs.Perm cs' → R (cs.foldl op e) (cs'.foldl op e))
    {l l' : List α} (hl : l.Perm l') {r : Option β} (hr : mergeFold p m none l = some r) :
    ∃ r', mergeFold p m none l' = some r' ∧ (r' = r ∨ ∃ x y, r = some (ι x) ∧ r' = some (ι y) ∧ R x y) := by
  rcases l with _ | ⟨a, _ | ⟨b, rest⟩⟩
  · rw [List.nil_perm.mp hl]; exact ⟨r, hr, Or.inl rfl⟩
  · cases List.singleton_perm.mp hl; exact ⟨r, hr, Or.inl rfl⟩
  · have hlen := hl.length_eq
    rcases l' with _ | ⟨a', _ | ⟨b', rest'⟩⟩
    · cases hlen
    · cases hlen
    · rw [many h] at hr ⊢
      rw [← hl.all_eq]
      split at hr
      next hall =>
        rw [if_pos hall]
        exact ⟨_, rfl, Or.inr ⟨_, _, (Option.some.inj hr).symm, rfl, hR (hl.filterMap _)⟩⟩
      next => cases hr

end mergeFold
end Dm
