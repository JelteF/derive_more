import Dm.Model.ExprSplit

/-
The expression scanner model, from both sides. Inversions: whatever a scan returns is a non-empty prefix of its input
and what it leaves is the rest (`*_prefix`); an alias is `ident =` (`startsWithAlias_eq_some`). Evaluations: what
`isPunct`, `pathSep`, `balancedPair`, `exprStep`, `takeUntilComma`, `parseArgsLoop` and `startsWithAlias` give on the
token shapes the C16 theorems are about.
-/
namespace Dm.Split

theorem balancedLoop_prefix {o c : Char} {ts : List Tok} {n : Nat} {out r : List Tok}
    (h : balancedLoop o c ts n = some (out, r)) : out ++ r = ts := by
  revert h
  fun_induction balancedLoop o c ts n generalizing out r <;> intro h <;> cases h
  · rfl
  · rename_i hs ih
    exact congrArg (_ :: ·) (ih hs)

theorem balancedPair_prefix {o c : Char} {ts out r : List Tok}
    (h : balancedPair o c ts = some (out, r)) : out ++ r = ts ∧ out ≠ [] := by
  revert h
  fun_cases balancedPair o c ts <;> intro h <;> cases h
  rename_i hs
  exact ⟨congrArg (_ :: ·) (balancedLoop_prefix hs), List.cons_ne_nil _ _⟩

theorem exprStep_prefix {ts out r : List Tok} (h : exprStep ts = some (out, r)) : out ++ r = ts ∧ out ≠ [] := by
  revert h
  fun_cases exprStep ts <;> intro h <;> cases h
  · -- `::` and a balanced `<..>`
    rename_i a1 hx
    unfold a1 at hx
    split at hx
    · rename_i p1 p2 r0
      split at hx
      · split at hx
        · rename_i hb
          cases hx
          exact ⟨congrArg (p1 :: p2 :: ·) (balancedPair_prefix hb).1, List.cons_ne_nil _ _⟩
        · cases hx
      · cases hx
    · cases hx
  · -- a balanced `<..>` and `::`
    rename_i a2 hx
    unfold a2 at hx
    split at hx
    · rename_i hb
      split at hx
      · split at hx
        · cases hx
          exact ⟨(List.append_assoc ..).trans (balancedPair_prefix hb).1,
            List.append_ne_nil_of_right_ne_nil _ (List.cons_ne_nil _ _)⟩
        · cases hx
      · cases hx
    · cases hx
  · rename_i hb
    exact balancedPair_prefix hb
  · exact ⟨rfl, List.cons_ne_nil _ _⟩

theorem takeUntilComma_prefix {fuel : Nat} {ts : List Tok} {parsed : Bool} {acc out r : List Tok}
    (h : takeUntilComma fuel ts parsed acc = some (out, r)) :
    ∃ consumed, out = acc ++ consumed ∧ consumed ++ r = ts
      ∧ (r = [] ∨ ∃ t r', r = t :: r' ∧ t.isComma = true) := by
  revert h
  fun_induction takeUntilComma fuel ts parsed acc
  · intro h; cases h
  · intro h; cases h
    exact ⟨[], (List.append_nil _).symm, rfl, .inl rfl⟩
  · intro h; cases h
  · rename_i t rest hc
    intro h; cases h
    exact ⟨[], (List.append_nil _).symm, rfl, .inr ⟨t, rest, rfl, hc⟩⟩
  · intro h; cases h
  · rename_i consumed r0 hs ih
    rw [hs]
    intro h
    obtain ⟨c2, rfl, rfl, h3⟩ := ih h
    exact ⟨consumed ++ c2, List.append_assoc ..,
      (List.append_assoc ..).trans (exprStep_prefix hs).1, h3⟩
  · rename_i hs
    rw [hs]
    intro h; cases h

theorem startsWithAlias_eq_some {ts r : List Tok} {a : String} (h : startsWithAlias ts = some (a, r)) :
    ∃ j, ts = .ident a :: .punct '=' j :: r := by
  revert h
  fun_cases startsWithAlias ts <;> intro h <;> cases h
  exact ⟨_, rfl⟩

theorem Tok.eq_punct_of_isPunct {t : Tok} {ch : Char} (h : t.isPunct ch = true) : ∃ j, t = .punct ch j := by
  cases t with
  | punct d j => exact ⟨j, of_decide_eq_true h ▸ rfl⟩
  | _ => cases h

theorem Tok.isPunct_ne {t : Tok} {a b : Char} (h : t.isPunct a = true) (hab : a ≠ b) : t.isPunct b = false := by
  obtain ⟨j, rfl⟩ := Tok.eq_punct_of_isPunct h
  exact decide_eq_false hab

theorem pathSep_eq_none_of_head {t : Tok} {r : List Tok} (h : t.isPunct ':' = false) : pathSep (t :: r) = none := by
  unfold pathSep
  split
  · rename_i heq
    cases heq
    cases h
  · rfl

theorem balancedPair_eq_none_of_head {o c : Char} {t : Tok} {r : List Tok} (h : t.isPunct o = false) :
    balancedPair o c (t :: r) = none := by
  simp [balancedPair, h]

theorem exprStep_turbofish {r out r' : List Tok} (j : Bool) (h : balancedPair '<' '>' r = some (out, r')) :
    exprStep (.punct ':' true :: .punct ':' j :: r) = some (.punct ':' true :: .punct ':' j :: out, r') := by
  simp only [exprStep, pathSep, h]

theorem exprStep_qpath {t : Tok} {ts out r' : List Tok} {j : Bool} (ht : t.isPunct ':' = false)
    (h : balancedPair '<' '>' (t :: ts) = some (out, .punct ':' true :: .punct ':' j :: r')) :
    exprStep (t :: ts) = some (out ++ [.punct ':' true, .punct ':' j], r') := by
  unfold exprStep
  rw [pathSep_eq_none_of_head ht, h]
  -- `cases ts` only lets the first alternative's `match` on `p1 :: p2 :: r` reduce; both shapes of the tail then agree
  cases ts <;> rfl

theorem exprStep_of_not_colon_lt {t : Tok} (ts : List Tok) (h1 : t.isPunct ':' = false) (h2 : t.isPunct '<' = false) :
    exprStep (t :: ts) = match balancedPair '|' '|' (t :: ts) with
      | some x => some x
      | none => some ([t], ts) := by
  unfold exprStep
  rw [pathSep_eq_none_of_head h1, balancedPair_eq_none_of_head h2]
  cases ts <;> rfl  -- as in `exprStep_qpath`

/-- `|` params `|` is consumed as one unit by `balanced_pair`. -/
theorem balancedPair_closure {op cl : Tok} {params : List Tok} (r : List Tok)
    (hop : op.isPunct '|' = true) (hcl : cl.isPunct '|' = true)
    (hp : ∀ t ∈ params, t.isPunct '|' = false) :
    balancedPair '|' '|' (op :: (params ++ cl :: r)) = some (op :: (params ++ [cl]), r) := by
  have : balancedLoop '|' '|' (params ++ cl :: r) 1 = some (params ++ [cl], r) := by
    induction params with
    | nil => simp only [List.nil_append, balancedLoop, hcl, if_true]
    | cons p ps ih =>
      simp only [List.cons_append, balancedLoop, hp p (.head _), Bool.false_eq_true, if_false,
        ih fun t ht => hp t (.tail _ ht)]
  simp only [balancedPair, hop, if_true, this]

/-- Closure parameter lists: the commas of `|a, b|` do not split. -/
theorem exprStep_closure {op cl : Tok} {params : List Tok} (r : List Tok)
    (hop : op.isPunct '|' = true) (hcl : cl.isPunct '|' = true)
    (hp : ∀ t ∈ params, t.isPunct '|' = false) :
    exprStep (op :: (params ++ cl :: r)) = some (op :: (params ++ [cl]), r) := by
  rw [exprStep_of_not_colon_lt _ (Tok.isPunct_ne hop (by decide)) (Tok.isPunct_ne hop (by decide)),
    balancedPair_closure r hop hcl hp]

theorem takeUntilComma_step {t : Tok} {ts chunk r : List Tok} (fuel : Nat) (parsed : Bool) (acc : List Tok)
    (ht : t.isComma = false) (hs : exprStep (t :: ts) = some (chunk, r)) :
    takeUntilComma (fuel + 1) (t :: ts) parsed acc = takeUntilComma fuel r true (acc ++ chunk) := by
  simp only [takeUntilComma, ht, hs, Bool.false_eq_true, if_false]

theorem parseArgsLoop_last {fuel : Nat} {ts : List Tok} {a : Arg} (h : parseArg ts = some (a, [])) :
    parseArgsLoop (fuel + 1) ts = some [a] := by
  cases ts with
  | nil => cases h  -- `parseArg []` is `none`
  | cons t ts => simp only [parseArgsLoop, h]

theorem parseArgsLoop_comma {fuel : Nat} {ts r : List Tok} {a : Arg} {c : Tok} (hc : c.isComma = true)
    (h : parseArg ts = some (a, c :: r)) :
    parseArgsLoop (fuel + 1) ts = (parseArgsLoop fuel r).map (a :: ·) := by
  cases ts with
  | nil => cases h
  | cons t ts =>
    simp only [parseArgsLoop, h, hc, if_true]
    cases parseArgsLoop fuel r <;> rfl

theorem startsWithAlias_eq_none_of_ne {ts : List Tok} (h : ∀ a j r, ts ≠ .ident a :: .punct '=' j :: r) :
    startsWithAlias ts = none := by
  unfold startsWithAlias
  split
  · exact absurd rfl (h _ _ _)
  · rfl

end Dm.Split
