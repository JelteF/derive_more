import Dm.Model.TypedAttr
import Dm.Lemmas.MergeFold

/-
The Into derive's attribute parser. The loop of `ConversionsAttribute::parse` never looks at its state: each item has a
contribution of its own (`contrib`, `loopStep_eq`), so the loop is a monoid homomorphism (`loopFrom_append_comb`) that
succeeds exactly when every item contributes (`loopFrom_isSome`). Hence the legacy check never changes the verdict
(`legacy_rejected_anyway`), `pConvsArgs` has a closed form, and at the struct level (an instance of `mergeFold`) splitting
`#[into(..)]` in two changes nothing (`parseIntoStruct_split`) and order does not matter beyond `Equiv`.
-/
namespace Dm.TypedAttr

@[simp] theorem Convs.merge_empty_left (c : Convs) : ({} : Convs).merge c = c := by
  cases c; simp [Convs.merge]

@[simp] theorem Convs.merge_empty_right (c : Convs) : c.merge {} = c := by
  cases c; simp [Convs.merge]

theorem Convs.merge_assoc (a b c : Convs) : (a.merge b).merge c = a.merge (b.merge c) := by
  simp [Convs.merge, Bool.or_assoc, List.append_assoc]

@[simp] theorem ConvsAttr.merge_empty_left (c : ConvsAttr) : ({} : ConvsAttr).merge c = c := by
  cases c; simp [ConvsAttr.merge]

@[simp] theorem ConvsAttr.merge_empty_right (c : ConvsAttr) : c.merge {} = c := by
  cases c; simp [ConvsAttr.merge]

theorem ConvsAttr.merge_assoc (a b c : ConvsAttr) : (a.merge b).merge c = a.merge (b.merge c) := by
  simp [ConvsAttr.merge, Convs.merge_assoc]

/-- Combination of two loop states: the second loop run after the first. -/
def Loop.comb (a b : Loop) : Loop :=
  { out := a.out.merge b.out, wrapped := a.wrapped || b.wrapped, top := a.top || b.top }

@[simp] theorem Loop.comb_empty_left (s : Loop) : ({} : Loop).comb s = s := by
  cases s; simp [Loop.comb]

@[simp] theorem Loop.comb_empty_right (s : Loop) : s.comb {} = s := by
  cases s; simp [Loop.comb]

theorem Loop.comb_assoc (a b c : Loop) : (a.comb b).comb c = a.comb (b.comb c) := by
  simp [Loop.comb, ConvsAttr.merge_assoc, Bool.or_assoc]

theorem inner_eq_map_merge (c : Convs) (it : Item) : inner c it = (inner {} it).map c.merge := by
  cases it with
  | word w => exact congrArg some (by simp only [Convs.merge, Bool.or_true, List.append_nil])
  | call w args tr =>
    dsimp only [inner]
    cases args.isEmpty && tr
    · cases allTypes args
      · rfl
      · exact congrArg some (by simp only [Convs.merge, Bool.or_false, List.nil_append])
    · rfl
  | _ => rfl

/-- `owned`, `ref`, `ref_mut`, alone or with a parenthesised list. -/
def isWrapItem : Item → Bool
  | .word w => isWrapWord w
  | .call w _ _ => isWrapWord w
  | _ => false

/-- Where the conversion `c` read from an `owned` / `ref` / `ref_mut` item goes. -/
def wrapOut (it : Item) (c : Convs) : ConvsAttr :=
  match it with
  | .word .owned | .call .owned _ _ => { owned := c }
  | .word .ref | .call .ref _ _ => { ref := c }
  | .word .refMut | .call .refMut _ _ => { refMut := c }
  | _ => {}

/-- What one item adds to the loop's state, whatever the state (`loopStep_eq`). -/
def contrib (it : Item) : Option Loop :=
  if isWrapItem it then (inner {} it).map fun c => { out := wrapOut it c, wrapped := true }
  else if isType it then some { out := { owned := { tys := [it] } }, top := true } else none

/-- The three `owned` / `ref` / `ref_mut` arms of `loopStep` and its last arm, as combinations with the state. -/
theorem loopStep_arms (s : Loop) (it : Item) :
    ((inner s.out.owned it).map fun c => { s with out := { s.out with owned := c }, wrapped := true })
      = ((inner {} it).map fun c => { out := { owned := c }, wrapped := true }).map s.comb
    ∧ ((inner s.out.ref it).map fun c => { s with out := { s.out with ref := c }, wrapped := true })
      = ((inner {} it).map fun c => { out := { ref := c }, wrapped := true }).map s.comb
    ∧ ((inner s.out.refMut it).map fun c => { s with out := { s.out with refMut := c }, wrapped := true })
      = ((inner {} it).map fun c => { out := { refMut := c }, wrapped := true }).map s.comb
    ∧ { s with out := { s.out with owned := { s.out.owned with tys := s.out.owned.tys ++ [it] } }, top := true }
      = s.comb { out := { owned := { tys := [it] } }, top := true } := by
  rw [inner_eq_map_merge s.out.owned, inner_eq_map_merge s.out.ref, inner_eq_map_merge s.out.refMut]
  cases inner {} it <;>
    simp only [Option.map_none, Option.map_some, Loop.comb, ConvsAttr.merge, Convs.merge_empty_right, Bool.or_true,
      Bool.or_false, true_and] <;>
    simp only [Convs.merge, Bool.or_false]

/-- The loop step does not look at the state: it combines the state with what the item contributes. -/
theorem loopStep_eq (s : Loop) (it : Item) : loopStep s it = (contrib it).map s.comb := by
  obtain ⟨h1, h2, h3, h4⟩ := loopStep_arms s it
  cases it with
  | word w =>
    cases w
    case owned => exact h1
    case ref => exact h2
    case refMut => exact h3
    all_goals exact congrArg some h4
  | call w args tr =>
    cases w
    case owned => exact h1
    case ref => exact h2
    case refMut => exact h3
    all_goals rfl
  | pathTy k => exact congrArg some h4
  | otherTy k => exact congrArg some h4
  | strLit => rfl
  | intLit => rfl

theorem loopStep_init (it : Item) : loopStep {} it = contrib it := by
  rw [loopStep_eq]
  cases contrib it with
  | none => rfl
  | some d => exact congrArg some (Loop.comb_empty_left d)

theorem loopFrom_comb (s : Loop) (xs : List Item) : loopFrom s xs = (loopFrom {} xs).map s.comb := by
  induction xs generalizing s with
  | nil => exact congrArg some (Loop.comb_empty_right s).symm
  | cons it rest ih =>
    unfold loopFrom
    rw [loopStep_eq s it, loopStep_init it]
    cases contrib it with
    | none => rfl
    | some d =>
      show loopFrom (s.comb d) rest = (loopFrom d rest).map s.comb
      rw [ih (s.comb d), ih d]
      cases loopFrom {} rest with
      | none => rfl
      | some e => exact congrArg some (Loop.comb_assoc s d e)

theorem loopFrom_append (s : Loop) (xs ys : List Item) :
    loopFrom s (xs ++ ys) = (loopFrom s xs).bind fun s' => loopFrom s' ys := by
  induction xs generalizing s with
  | nil => rfl
  | cons it rest ih =>
    simp only [List.cons_append, loopFrom]
    cases loopStep s it with
    | none => rfl
    | some s' => exact ih s'

theorem loopFrom_append_comb (xs ys : List Item) :
    loopFrom {} (xs ++ ys) = (loopFrom {} xs).bind fun a => (loopFrom {} ys).map a.comb := by
  rw [loopFrom_append]
  cases h : loopFrom {} xs with
  | none => rfl
  | some a => simp only [Option.bind]; exact loopFrom_comb a ys

theorem loopFrom_isSome (s : Loop) (xs : List Item) : (loopFrom s xs).isSome = xs.all fun it => (contrib it).isSome := by
  induction xs generalizing s with
  | nil => rfl
  | cons it rest ih =>
    rw [loopFrom, loopStep_eq, List.all_cons]
    cases contrib it with
    | none => rfl
    | some d => exact ih _

theorem contrib_flags {it : Item} {d : Loop} (h : contrib it = some d) :
    d.wrapped = isWrapItem it ∧ d.top = !isWrapItem it := by
  revert h
  fun_cases contrib it <;> intro h
  next hw =>
    obtain ⟨c, _, rfl⟩ := Option.map_eq_some_iff.mp h
    rw [hw]; exact ⟨rfl, rfl⟩
  next hw _ => cases h; rw [eq_false_of_ne_true hw]; exact ⟨rfl, rfl⟩
  next => cases h

theorem inner_call_some {c d : Convs} {w : W} {args : List Item} {tr : Bool} (h : inner c (.call w args tr) = some d) :
    (args.isEmpty && tr) = false ∧ allTypes args = true := by
  rw [inner] at h
  by_cases h1 : (args.isEmpty && tr) = true
  · rw [if_pos h1] at h; cases h
  by_cases h2 : allTypes args = true
  · exact ⟨eq_false_of_ne_true h1, h2⟩
  · rw [if_neg h1, if_neg h2] at h; cases h

theorem contrib_isSome_cases {it : Item} (h : (contrib it).isSome = true) :
    isType it = true ∨ ∃ w, isWrapWord w = true ∧ (it = .word w ∨ ∃ args tr, it = .call w args tr ∧ allTypes args = true) := by
  revert h
  fun_cases contrib it <;> intro h
  next hw =>
    cases it with
    | word w => exact .inr ⟨w, hw, .inl rfl⟩
    | call w args tr =>
      obtain ⟨d, hi⟩ := Option.isSome_iff_exists.mp (Option.isSome_map ▸ h)
      exact .inr ⟨w, hw, .inr ⟨args, tr, rfl, (inner_call_some hi).2⟩⟩
    | _ => cases hw
  next ht => exact .inl ht
  next => cases h

theorem contrib_call_none_of_mem (w : W) {args : List Item} (tr : Bool) {l : Item} (hl : l ∈ args) (hc : isType l = false) :
    contrib (.call w args tr) = none := by
  cases h : contrib (.call w args tr) with
  | none => rfl
  | some d =>
    rcases contrib_isSome_cases (Option.isSome_iff_exists.mpr ⟨d, h⟩) with ht | ⟨w', _, hw | ⟨args', tr', he, hall⟩⟩
    · cases ht
    · cases hw
    · cases he
      rw [allTypes, List.all_eq_true] at hall
      rw [hall l hl] at hc; cases hc

theorem contrib_call_trailing (w : W) {args : List Item} (h : args ≠ []) :
    contrib (.call w args true) = contrib (.call w args false) := by
  cases args with
  | nil => exact absurd rfl h
  -- `(a :: as).isEmpty && tr` computes to `false`; `cases w` lets `wrapOut` compute
  | cons a as => cases w <;> rfl

theorem parseList_some {it : Item} {n : Nat} (h : parseList it = some n) : ∃ args tr, it = .call .types args tr := by
  revert h
  fun_cases parseList it <;> intro h <;> cases h
  exact ⟨_, _, rfl⟩

theorem legacyInner_call_some {w : W} {args : List Item} {tr : Bool} {k : Nat}
    (h : legacyInner (.call w args tr) = some k) : ∃ a t, Item.call .types a t ∈ args := by
  rw [legacyInner] at h
  by_cases h1 : (args.isEmpty && tr) = true
  · rw [if_pos h1] at h; cases h
  by_cases h2 : args.all isNestedMeta = true
  · rw [if_neg h1, if_pos h2] at h
    cases hl : args.getLast? with
    | none => rw [hl] at h; cases h
    | some l =>
      rw [hl] at h
      obtain ⟨a, t, rfl⟩ := parseList_some h
      exact ⟨a, t, List.mem_of_getLast? hl⟩
  · rw [if_neg h1, if_neg h2] at h; cases h

/-- An item in which the legacy check collects an element of a `types(...)` list contributes nothing to the loop:
it is such a list, or its parenthesised list ends in one, and a `types(...)` list is no type. -/
theorem contrib_none_of_legacyStep_pos {it : Item} {k : Nat} (h : legacyStep it = some k) (hk : 0 < k) : contrib it = none := by
  revert h
  fun_cases legacyStep it <;> intro h
  next => cases h; cases hk
  next => cases h
  next w args tr _ =>
    obtain ⟨a, t, hm⟩ := legacyInner_call_some h
    exact contrib_call_none_of_mem w tr hm rfl
  next =>
    obtain ⟨a, t, h'⟩ := parseList_some h
    cases h'
    rfl
  next => cases h

theorem exists_contrib_none_of_legacyFold_pos {xs : List Item} {n : Nat} (h : legacyFold xs = some n) (hn : 0 < n) :
    ∃ it ∈ xs, contrib it = none := by
  revert h
  fun_induction legacyFold xs generalizing n <;> intro h <;> cases h
  next => cases hn
  next x rest k m hr hx ih =>
    -- `hn : 0 < k + m`: the element was collected in `x` or further on
    cases k with
    | zero =>
      obtain ⟨it, hm, hf⟩ := ih (Nat.zero_add m ▸ hn) hr
      exact ⟨it, List.mem_cons_of_mem _ hm, hf⟩
    | succ k => exact ⟨x, List.mem_cons_self, contrib_none_of_legacyStep_pos hx (Nat.succ_pos k)⟩

/-- What `check_legacy_syntax` refuses, the parser proper refuses too: the check decides the wording only. -/
theorem legacy_rejected_anyway (a : Args) (h : isLegacy a = true) : pConvsArgs a = none := by
  unfold isLegacy at h
  by_cases hne : (a.items.isEmpty && a.trailing) = true
  · rw [if_pos hne] at h; cases h
  · rw [if_neg hne, Bool.and_eq_true] at h
    cases hf : legacyFold a.items with
    | none => rw [hf] at h; cases h.2
    | some n =>
      rw [hf] at h
      -- the check collected an element of a `types(...)` list: the item it stands in fails the loop
      obtain ⟨it, hm, hfail⟩ := exists_contrib_none_of_legacyFold_pos hf (of_decide_eq_true h.2)
      have : (loopFrom {} a.items).isSome = false := by
        rw [loopFrom_isSome]
        exact List.all_eq_false.mpr ⟨it, hm, by rw [hfail]; exact Bool.false_ne_true⟩
      rw [pConvsArgs, if_neg hne, Option.eq_none_of_isNone (Option.isSome_eq_false_iff.mp this)]

theorem pConvs_eq (a : Args) : pConvs (.list a) = pConvsArgs a := by
  rw [pConvs]
  by_cases h : isLegacy a = true
  · rw [if_pos h, legacy_rejected_anyway a h]
  · rw [if_neg h]

theorem loopFrom_flags {xs : List Item} {s s' : Loop} (h : loopFrom s xs = some s') :
    s'.wrapped = (s.wrapped || xs.any isWrapItem) ∧ s'.top = (s.top || xs.any (fun i => !isWrapItem i)) := by
  revert h
  fun_induction loopFrom s xs <;> intro h
  next s => cases h; exact ⟨(Bool.or_false _).symm, (Bool.or_false _).symm⟩
  next s it rest s1 hs ih =>
    rw [loopStep_eq] at hs
    obtain ⟨d, hd, rfl⟩ := Option.map_eq_some_iff.mp hs
    obtain ⟨h1, h2⟩ := contrib_flags hd
    obtain ⟨h3, h4⟩ := ih h
    rw [h3, h4, List.any_cons, List.any_cons, ← h2, ← h1]
    exact ⟨Bool.or_assoc .., Bool.or_assoc ..⟩
  next => cases h

/-- What into.rs refuses with the diagnostic "mixing regular types with wrapped into `owned`/`ref`/`ref_mut` is not
allowed": an `owned` / `ref` / `ref_mut` item and a plain one in the same attribute. -/
def mixing (l : List Item) : Bool := l.any isWrapItem && l.any (fun i => !isWrapItem i)

theorem pConvsArgs_eq (a : Args) :
    pConvsArgs a =
      if (a.items.isEmpty && a.trailing) || mixing a.items then none else (loopFrom {} a.items).map (·.out) := by
  unfold pConvsArgs
  cases a.items.isEmpty && a.trailing
  · cases h : loopFrom {} a.items with
    | none => cases mixing a.items <;> rfl
    | some s =>
      -- from the empty state: `false || b` computes to `b`
      obtain ⟨h1, h2⟩ : s.wrapped = a.items.any isWrapItem ∧ s.top = a.items.any (fun i => !isWrapItem i) :=
        loopFrom_flags h
      rw [mixing, ← h1, ← h2, Bool.and_comm]
      simp only [Bool.false_eq_true, if_false, Bool.false_or, Option.map_some]
  · rfl

theorem pConvsArgs_some {a : Args} {c : ConvsAttr} (h : pConvsArgs a = some c) :
    mixing a.items = false ∧ ∀ x ∈ a.items, (contrib x).isSome = true := by
  rw [pConvsArgs_eq] at h
  by_cases hne : ((a.items.isEmpty && a.trailing) || mixing a.items) = true
  · rw [if_pos hne] at h; cases h
  · rw [if_neg hne] at h
    obtain ⟨s, hl, _⟩ := Option.map_eq_some_iff.mp h
    refine ⟨(Bool.or_eq_false_iff.mp (eq_false_of_ne_true hne)).2, List.all_eq_true.mp ?_⟩
    rw [← loopFrom_isSome {}, hl]; rfl

theorem pIntoStruct_list (a : Args) : pIntoStruct (.list a) = (pConvsArgs a).map .convs := by
  rw [← pConvs_eq]; rfl

theorem pIntoStruct_of_ne {items : List Item} (hne : items ≠ []) (t : Bool) :
    pIntoStruct (.list ⟨items, t⟩) = if mixing items then none else (loopFrom {} items).map fun s => .convs s.out := by
  simp only [pIntoStruct_list, pConvsArgs_eq, List.isEmpty_eq_false_iff.mpr hne, Bool.false_and, Bool.false_or]
  cases mixing items <;> cases loopFrom {} items <;> rfl

theorem mixing_append {xs ys : List Item} (h : mixing (xs ++ ys) = false) : mixing xs = false ∧ mixing ys = false := by
  have bool : ∀ a b c d : Bool, ((a || b) && (c || d)) = false → (a && c) = false ∧ (b && d) = false := by decide
  simp only [mixing, List.any_append] at h
  exact bool _ _ _ _ h

def IntoStruct.convs? : IntoStruct → Option ConvsAttr
  | .convs c => some c
  | .empty => none

theorem IntoStruct.oneKind : mergeFold.OneKind IntoStruct.merge IntoStruct.convs? IntoStruct.convs ConvsAttr.merge {} where
  merge_eq a b := by cases a <;> cases b <;> rfl
  proj_eq_some_iff s c := by cases s <;> simp [IntoStruct.convs?]
  unit_left := ConvsAttr.merge_empty_left

theorem parseIntoStructFrom_eq (acc : Option IntoStruct) (l : List Attr) :
    parseIntoStructFrom acc l = mergeFold pIntoStruct IntoStruct.merge acc l := by
  fun_induction parseIntoStructFrom acc l <;> simp only [mergeFold, *]

/-- The attribute is a conversion list. -/
def convsOf (a : Attr) : Option ConvsAttr := (pIntoStruct a).bind IntoStruct.convs?

theorem convsOf_eq_some_iff {a : Attr} {c : ConvsAttr} : convsOf a = some c ↔ pIntoStruct a = some (.convs c) := by
  cases h : pIntoStruct a <;> simp [convsOf, h, IntoStruct.oneKind.proj_eq_some_iff]

theorem parseIntoStruct_single (a : Attr) : parseIntoStruct [a] = (pIntoStruct a).map some := by
  rw [parseIntoStruct, parseIntoStructFrom_eq, mergeFold.single]

theorem parseIntoStruct_many (a b : Attr) (rest : List Attr) :
    parseIntoStruct (a :: b :: rest) =
      if (a :: b :: rest).all (fun x => (convsOf x).isSome) then
        some (some (.convs (((a :: b :: rest).filterMap convsOf).foldl ConvsAttr.merge {})))
      else none := by
  rw [parseIntoStruct, parseIntoStructFrom_eq, mergeFold.many IntoStruct.oneKind]
  rfl

theorem parseIntoStruct_pair (a b : Attr) :
    parseIntoStruct [a, b] = (pIntoStruct a).bind fun c => (pIntoStruct b).bind fun d => (c.merge d).map some := by
  rw [parseIntoStruct, parseIntoStructFrom_eq, mergeFold.pair]

/-- **One `#[into(..)]` attribute or two**: splitting the argument list over two attributes changes nothing, the
refusal of mixing aside (which looks at one attribute at a time). -/
theorem parseIntoStruct_split {xs ys : List Item} (hx : xs ≠ []) (hy : ys ≠ []) (t t1 t2 : Bool)
    (hm : mixing (xs ++ ys) = false) :
    parseIntoStruct [.list ⟨xs ++ ys, t⟩] = parseIntoStruct [.list ⟨xs, t1⟩, .list ⟨ys, t2⟩] := by
  obtain ⟨hmx, hmy⟩ := mixing_append hm
  rw [parseIntoStruct_single, parseIntoStruct_pair, pIntoStruct_of_ne (List.append_ne_nil_of_left_ne_nil hx _), pIntoStruct_of_ne hx,
    pIntoStruct_of_ne hy, hm, hmx, hmy, loopFrom_append_comb]
  cases loopFrom {} xs <;> cases loopFrom {} ys <;> rfl

/-- Same conversions up to the order of the listed types. -/
def Convs.Equiv (a b : Convs) : Prop := a.consider = b.consider ∧ a.tys.Perm b.tys

def ConvsAttr.Equiv (a b : ConvsAttr) : Prop := a.owned.Equiv b.owned ∧ a.ref.Equiv b.ref ∧ a.refMut.Equiv b.refMut

theorem Convs.foldl_merge (cs : List Convs) (acc : Convs) :
    cs.foldl Convs.merge acc =
      { consider := acc.consider || cs.any (·.consider), tys := acc.tys ++ (cs.map (·.tys)).flatten } := by
  induction cs generalizing acc with
  | nil => simp only [List.foldl_nil, List.any_nil, Bool.or_false, List.map_nil, List.flatten_nil, List.append_nil]
  | cons c rest ih =>
    rw [List.foldl_cons, ih]
    simp only [Convs.merge, List.any_cons, List.map_cons, List.flatten_cons, Bool.or_assoc, List.append_assoc]

theorem Convs.foldl_merge_perm {cs cs' : List Convs} (h : cs.Perm cs') (acc : Convs) :
    (cs.foldl Convs.merge acc).Equiv (cs'.foldl Convs.merge acc) := by
  rw [Convs.foldl_merge cs, Convs.foldl_merge cs']
  exact ⟨congrArg (acc.consider || ·) h.any_eq, ((h.map _).flatten).append_left _⟩

theorem ConvsAttr.foldl_merge_perm {cs cs' : List ConvsAttr} (h : cs.Perm cs') (acc : ConvsAttr) :
    (cs.foldl ConvsAttr.merge acc).Equiv (cs'.foldl ConvsAttr.merge acc) := by
  -- `ConvsAttr.merge` works field by field (`f` one of the three fields), and so does a fold of it
  have field : ∀ f : ConvsAttr → Convs, (∀ a b, f (a.merge b) = (f a).merge (f b)) →
      (f (cs.foldl ConvsAttr.merge acc)).Equiv (f (cs'.foldl ConvsAttr.merge acc)) := by
    intro f hf
    have proj : ∀ l : List ConvsAttr, f (l.foldl ConvsAttr.merge acc) = (l.map f).foldl Convs.merge (f acc) :=
      fun l => by rw [List.foldl_map]; exact (List.foldl_hom f fun a b => (hf a b).symm).symm
    rw [proj, proj]
    exact Convs.foldl_merge_perm (h.map f) _
  exact ⟨field (·.owned) fun _ _ => rfl, field (·.ref) fun _ _ => rfl, field (·.refMut) fun _ _ => rfl⟩

end Dm.TypedAttr
