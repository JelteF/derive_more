import Dm.Model.LegacyAttr

/-
The legacy attribute parser through a denotation: a parameter list is malformed whatever the state, or stands for a list
of set-once atoms applied in order (`parseMetas_eq`). Two atoms commute (`applyAtom_comm`), so the order is free
(`parseMetas_perm`); hence one parameter refused in every state (`parseMetas_error_of_mem`) or two of which the second is
refused after the first (`parseMetas_clash`) make the list refused wherever they stand. Last, single names: what a path
denotes (`den_path`, `den_not_path`), two mentions clash (`parseMeta_path_clash`), a name outside the allow-list.
-/
namespace Dm.Legacy

inductive Flag where
  | forward | owned | ref | refMut | source | backtrace
  deriving Repr, DecidableEq, Inhabited

def Flag.slot : Flag → Slot
  | .forward => .forward | .owned => .owned | .ref => .ref | .refMut => .refMut
  | .source => .source | .backtrace => .backtrace

theorem Flag.slot_ne_enabled (f : Flag) : f.slot ≠ .enabled := by cases f <;> exact Slot.noConfusion

theorem Flag.slot_inj {f g : Flag} (h : f.slot = g.slot) : f = g := by
  -- `Flag.slot` has a left inverse
  let back : Slot → Flag := fun
    | .owned => .owned | .ref => .ref | .refMut => .refMut | .source => .source | .backtrace => .backtrace
    | _ => .forward
  have inv : ∀ f : Flag, back f.slot = f := fun f => by cases f <;> rfl
  exact (inv f).symm.trans ((congrArg back h).trans (inv g))

inductive Atom where
  | ignore
  | flag (f : Flag) (v : Bool)
  deriving Repr, DecidableEq, Inhabited

def Atom.slot : Atom → Slot
  | .ignore => .enabled
  | .flag f _ => f.slot

def applyAtom : Atom → Info → Except Unit Info
  | .ignore, i => setIgnore i
  | .flag f v, i => setOnce i f.slot v

def applyAtoms : List Atom → Info → Except Unit Info
  | [], i => pure i
  | a :: rest, i =>
    match applyAtom a i with
    | .ok i' => applyAtoms rest i'
    | .error e => .error e

def pathAtom : Wrapper → Name → Option Atom
  | .none, .ignore => some .ignore
  | .none, .forward => some (.flag .forward true)
  | .not, .forward => some (.flag .forward false)
  | .none, .owned => some (.flag .owned true)
  | .none, .ref => some (.flag .ref true)
  | .none, .refMut => some (.flag .refMut true)
  | .none, .source => some (.flag .source true)
  | .not, .source => some (.flag .source false)
  | .none, .backtrace => some (.flag .backtrace true)
  | .not, .backtrace => some (.flag .backtrace false)
  | _, _ => none

theorem pathAction_eq (w : Wrapper) (n : Name) (i : Info) :
    pathAction w n i = match pathAtom w n with
      | some a => applyAtom a i
      | none => .error () := by
  cases w <;> cases n <;> rfl

mutual
  def den (allowed : List Name) (w : Wrapper) : Meta → Option (List Atom)
    | .notList args => if w ≠ .none then none else denList allowed .not args
    | .list n args =>
      if !allowed.contains n then none else
      match w, n with
      | .none, .owned => (denList allowed (.named .owned) args).map (Atom.flag .owned true :: ·)
      | .none, .ref => (denList allowed (.named .ref) args).map (Atom.flag .ref true :: ·)
      | .none, .refMut => (denList allowed (.named .refMut) args).map (Atom.flag .refMut true :: ·)
      | _, _ => none
    | .path n => if !allowed.contains n then none else (pathAtom w n).map ([·])
  def denList (allowed : List Name) (w : Wrapper) : List Meta → Option (List Atom)
    | [] => some []
    | m :: rest =>
      match den allowed w m, denList allowed w rest with
      | some a, some b => some (a ++ b)
      | _, _ => none
end

/-! `Except.bind` is what the `match … with | .ok i' => … | .error e => .error e` of the model spells out. -/

theorem exceptBind_error {α β : Type} (x : Except Unit α) : x.bind (fun _ => (.error () : Except Unit β)) = .error () := by
  cases x <;> rfl

theorem applyAtoms_cons (a : Atom) (rest : List Atom) (i : Info) :
    applyAtoms (a :: rest) i = (applyAtom a i).bind (applyAtoms rest) := by
  rw [applyAtoms]; cases applyAtom a i <;> rfl

theorem parseMetas_cons (allowed : List Name) (w : Wrapper) (m : Meta) (rest : List Meta) (i : Info) :
    parseMetas allowed w (m :: rest) i = (parseMeta allowed w m i).bind (parseMetas allowed w rest) := by
  rw [parseMetas]; cases parseMeta allowed w m i <;> rfl

theorem applyAtoms_append (as bs : List Atom) (i : Info) :
    applyAtoms (as ++ bs) i = (applyAtoms as i).bind (applyAtoms bs) := by
  induction as generalizing i with
  | nil => rfl
  | cons a as ih =>
    rw [List.cons_append, applyAtoms_cons, applyAtoms_cons, funext ih]
    exact (bind_assoc (m := Except Unit) ..).symm

def runDen (d : Option (List Atom)) (i : Info) : Except Unit Info :=
  match d with
  | some as => applyAtoms as i
  | none => .error ()

theorem applyAtoms_error_absorb (as : List Atom) (i : Info) (h : applyAtoms as i = .error ()) :
    ∀ bs, applyAtoms (as ++ bs) i = .error () := by
  intro bs; rw [applyAtoms_append, h]; rfl

theorem denList_eq (allowed : List Name) (w : Wrapper) (ms : List Meta) :
    denList allowed w ms =
      if ms.all (fun m => (den allowed w m).isSome) then some (ms.filterMap (den allowed w)).flatten else none := by
  induction ms with
  | nil => rfl
  | cons m rest ih =>
    rw [denList, ih, List.all_cons, List.filterMap_cons]
    cases den allowed w m with
    | none => rfl
    | some a => cases rest.all fun m => (den allowed w m).isSome <;> rfl

theorem runDen_denList_cons (allowed : List Name) (w : Wrapper) (m : Meta) (rest : List Meta) (i : Info) :
    runDen (denList allowed w (m :: rest)) i = (runDen (den allowed w m) i).bind (runDen (denList allowed w rest)) := by
  rw [denList]
  cases den allowed w m with
  | none => rfl
  | some a =>
    cases denList allowed w rest with
    | none => exact (exceptBind_error _).symm
    | some b => exact applyAtoms_append a b i

theorem runDen_map_cons (a : Atom) (d : Option (List Atom)) (i : Info) :
    runDen (d.map (a :: ·)) i = (applyAtom a i).bind (runDen d) := by
  cases d with
  | none => exact (exceptBind_error _).symm
  | some as => exact applyAtoms_cons a as i

theorem applyAtoms_single (a : Atom) (i : Info) : applyAtoms [a] i = applyAtom a i := by
  rw [applyAtoms]; cases applyAtom a i <;> rfl

theorem runDen_pathAtom (w : Wrapper) (n : Name) (i : Info) :
    runDen ((pathAtom w n).map ([·])) i = pathAction w n i := by
  rw [pathAction_eq]
  cases pathAtom w n with
  | none => rfl
  | some a => exact applyAtoms_single a i

mutual
  theorem parseMeta_eq (allowed : List Name) (w : Wrapper) :
      (m : Meta) → (i : Info) → parseMeta allowed w m i = runDen (den allowed w m) i
    | .notList args, i => by
      cases w with
      | none => exact parseMetas_eq allowed .not args i
      | _ => rfl
    | .path n, i => by
      unfold parseMeta den
      cases allowed.contains n with
      | false => rfl
      | true => exact (runDen_pathAtom w n i).symm
    | .list n args, i => by
      unfold parseMeta den
      cases allowed.contains n with
      | false => rfl
      | true =>
        have key : ∀ (f : Flag) (nm : Name),
            (match setOnce i f.slot true with
              | .ok i' => parseMetas allowed (.named nm) args i'
              | .error e => .error e) =
            runDen ((denList allowed (.named nm) args).map (Atom.flag f true :: ·)) i := by
          intro f nm
          rw [runDen_map_cons]
          show _ = (setOnce i f.slot true).bind _
          cases setOnce i f.slot true with
          | error e => rfl
          | ok j => exact parseMetas_eq allowed (.named nm) args j
        -- only `owned(..)`, `ref(..)`, `ref_mut(..)` outside any wrapper do something; both sides refuse the rest
        cases w with
        | none =>
          cases n with
          | owned => exact key .owned .owned
          | ref => exact key .ref .ref
          | refMut => exact key .refMut .refMut
          | _ => rfl
        | _ => rfl
  theorem parseMetas_eq (allowed : List Name) (w : Wrapper) :
      (ms : List Meta) → (i : Info) → parseMetas allowed w ms i = runDen (denList allowed w ms) i
    | [], i => rfl
    | m :: rest, i => by
      rw [parseMetas_cons, runDen_denList_cons, parseMeta_eq allowed w m i]
      exact congrArg _ (funext (parseMetas_eq allowed w rest))
end

theorem Info.set_comm (i : Info) {s t : Slot} (h : s ≠ t) (v u : Bool) :
    (i.set s v).set t u = (i.set t u).set s v := by
  funext x
  simp only [Info.set]
  by_cases hx : x = t
  · rw [if_pos hx, if_neg (hx ▸ h.symm), if_pos hx]
  · rw [if_neg hx, if_neg hx]

theorem Info.set_other (i : Info) {s t : Slot} (h : t ≠ s) (v : Bool) : (i.set s v) t = i t := if_neg h

theorem Info.set_same (i : Info) (s : Slot) (v : Bool) : (i.set s v) s = some v := if_pos rfl

def Atom.val : Atom → Bool
  | .ignore => false
  | .flag _ v => v

/-- What makes the parser refuse the atom, given what its slot holds. -/
def Atom.refused : Atom → Option Bool → Bool
  | .ignore, o => o == some false
  | .flag _ _, o => o.isSome

theorem applyAtom_eq (a : Atom) (i : Info) :
    applyAtom a i = if a.refused (i a.slot) then .error () else .ok (i.set a.slot a.val) := by
  cases a with
  | ignore => simp only [applyAtom, setIgnore, Atom.refused, beq_iff_eq]; rfl
  | flag f v => rfl

theorem Atom.refused_val {a b : Atom} (h : a.slot = b.slot) : b.refused (some a.val) = true := by
  cases a with
  | ignore =>
    cases b with
    | ignore => rfl
    | flag g u => exact absurd h.symm (Flag.slot_ne_enabled g)
  | flag f v =>
    cases b with
    | ignore => exact absurd h (Flag.slot_ne_enabled f)
    | flag g u => rfl

theorem applyAtom_same_slot {a b : Atom} (h : a.slot = b.slot) {i i' : Info} (ha : applyAtom a i = .ok i') :
    applyAtom b i' = .error () := by
  rw [applyAtom_eq] at ha
  split at ha
  · cases ha
  · cases ha
    rw [applyAtom_eq, ← h, Info.set_same, Atom.refused_val h]; rfl

theorem applyAtom_bind_applyAtom {a b : Atom} (hs : a.slot ≠ b.slot) (i : Info) (k : Info → Except Unit Info) :
    (applyAtom a i).bind (fun j => (applyAtom b j).bind k) =
      if (a.refused (i a.slot) || b.refused (i b.slot)) = true then .error ()
      else k ((i.set a.slot a.val).set b.slot b.val) := by
  rw [applyAtom_eq]
  cases a.refused (i a.slot) with
  | true => rfl
  | false =>
    show (applyAtom b _).bind k = _
    rw [applyAtom_eq, Info.set_other _ (Ne.symm hs)]
    cases b.refused (i b.slot) <;> rfl

/-- **Two atoms commute**: on different slots they do not see each other, on the same slot whichever comes second
is refused. -/
theorem applyAtom_comm (a b : Atom) (i : Info) (k : Info → Except Unit Info) :
    (applyAtom a i).bind (fun j => (applyAtom b j).bind k) = (applyAtom b i).bind (fun j => (applyAtom a j).bind k) := by
  by_cases hs : a.slot = b.slot
  · have fails : ∀ {a b : Atom}, a.slot = b.slot → (applyAtom a i).bind (fun j => (applyAtom b j).bind k) = .error () := by
      intro a b h
      cases ha : applyAtom a i with
      | error e => rfl
      | ok j => show (applyAtom b j).bind k = _; rw [applyAtom_same_slot h ha]; rfl
    rw [fails hs, fails hs.symm]
  · rw [applyAtom_bind_applyAtom hs, applyAtom_bind_applyAtom (Ne.symm hs), Bool.or_comm, Info.set_comm i hs]

theorem applyAtoms_perm {as bs : List Atom} (h : as.Perm bs) (i : Info) :
    applyAtoms as i = applyAtoms bs i := by
  induction h generalizing i with
  | nil => rfl
  | cons a _ ih => rw [applyAtoms_cons, applyAtoms_cons]; exact congrArg _ (funext ih)
  | swap a b l =>
    rw [applyAtoms_cons, applyAtoms_cons, funext (applyAtoms_cons a l), funext (applyAtoms_cons b l)]
    exact applyAtom_comm b a i _
  | trans _ _ ih1 ih2 => rw [ih1, ih2]

theorem parseMetas_perm (allowed : List Name) (w : Wrapper) {ms ms' : List Meta} (h : ms.Perm ms') (i : Info) :
    parseMetas allowed w ms i = parseMetas allowed w ms' i := by
  rw [parseMetas_eq, parseMetas_eq, denList_eq, denList_eq, h.all_eq]
  cases ms'.all fun m => (den allowed w m).isSome
  · rfl
  · exact applyAtoms_perm (h.filterMap _).flatten i

theorem parseMetas_clash {allowed : List Name} {w : Wrapper} {x y : Meta}
    (hxy : ∀ i j, parseMeta allowed w x i = .ok j → parseMeta allowed w y j = .error ())
    (pre mid post : List Meta) (i : Info) :
    parseMetas allowed w (pre ++ x :: mid ++ y :: post) i = .error () := by
  have hp : (pre ++ x :: mid ++ y :: post).Perm (x :: y :: (pre ++ (mid ++ post))) := by
    refine List.perm_middle.trans (.trans (.cons y ?_) (.swap x y _))
    rw [List.append_assoc]; exact List.perm_middle
  rw [parseMetas_perm allowed w hp, parseMetas_cons]
  cases hx : parseMeta allowed w x i with
  | error e => rfl
  | ok j => show parseMetas allowed w (y :: _) j = _; rw [parseMetas_cons, hxy i j hx]; rfl

theorem parseMetas_error_of_mem {allowed : List Name} {w : Wrapper} {m : Meta} {ms : List Meta} (hm : m ∈ ms)
    (h : ∀ i, parseMeta allowed w m i = .error ()) (i : Info) : parseMetas allowed w ms i = .error () := by
  obtain ⟨pre, post, rfl⟩ := List.append_of_mem hm
  rw [parseMetas_perm allowed w List.perm_middle, parseMetas_cons, h]; rfl

theorem den_path (allowed : List Name) (w : Wrapper) (n : Name) :
    den allowed w (.path n) = if allowed.contains n then (pathAtom w n).map ([·]) else none := by
  unfold den; cases allowed.contains n <;> rfl

theorem denList_single (allowed : List Name) (w : Wrapper) (m : Meta) :
    denList allowed w [m] = den allowed w m := by
  rw [denList, denList]
  cases den allowed w m with
  | none => rfl
  | some a => exact congrArg some (List.append_nil a)

theorem denList_append (allowed : List Name) (w : Wrapper) (xs ys : List Meta) :
    denList allowed w (xs ++ ys) =
      match denList allowed w xs, denList allowed w ys with
      | some a, some b => some (a ++ b)
      | _, _ => none := by
  simp only [denList_eq, List.all_append, List.filterMap_append, List.flatten_append]
  cases xs.all fun m => (den allowed w m).isSome <;> cases ys.all fun m => (den allowed w m).isSome <;> rfl

theorem den_not_path (allowed : List Name) (n : Name) :
    den allowed .none (.notList [.path n]) = if allowed.contains n then (pathAtom .not n).map ([·]) else none := by
  show denList allowed .not [.path n] = _
  rw [denList_single, den_path]

theorem den_none_of_not_allowed {allowed : List Name} {n : Name} (h : allowed.contains n = false) {m : Meta}
    (hm : m = .path n ∨ ∃ args, m = .list n args) (w : Wrapper) : den allowed w m = none := by
  rcases hm with rfl | ⟨args, rfl⟩
  · rw [den_path, h]; rfl
  · unfold den; rw [h]; rfl

/-- The slot a name stands for, whatever wraps it (`enabled` for the names that stand for none). -/
def Name.slot : Name → Slot
  | .forward => .forward | .owned => .owned | .ref => .ref | .refMut => .refMut
  | .source => .source | .backtrace => .backtrace | _ => .enabled

theorem pathAtom_slot {w : Wrapper} {n : Name} {a : Atom} (h : pathAtom w n = some a) : a.slot = n.slot := by
  revert h
  fun_cases pathAtom w n <;> intro h <;> cases h <;> rfl

theorem parseMeta_path_clash {allowed : List Name} {w : Wrapper} (w' : Wrapper) {n : Name} {i j : Info}
    (h : parseMeta allowed w (.path n) i = .ok j) : parseMeta allowed w' (.path n) j = .error () := by
  rw [parseMeta_eq, den_path] at h ⊢
  by_cases hc : allowed.contains n = true
  · rw [if_pos hc] at h ⊢
    cases ha : pathAtom w n with
    | none => rw [ha] at h; cases h
    | some a =>
      rw [ha] at h
      cases hb : pathAtom w' n with
      | none => rfl
      | some b =>
        -- both mentions stand for an atom on `n.slot`, whatever wraps them: the second is refused
        refine (applyAtoms_single b j).trans (applyAtom_same_slot ?_ ((applyAtoms_single a i).symm.trans h))
        exact (pathAtom_slot ha).trans (pathAtom_slot hb).symm
  · rw [if_neg hc] at h; cases h

theorem parseMeta_not_path (allowed : List Name) (n : Name) (i : Info) :
    parseMeta allowed .none (.notList [.path n]) i = parseMeta allowed .not (.path n) i := by
  rw [parseMeta_eq, parseMeta_eq, den_not_path, den_path]

theorem parseMeta_error_of_not_allowed {allowed : List Name} {n : Name} (h : allowed.contains n = false) {m : Meta}
    (hm : m = .path n ∨ ∃ args, m = .list n args) (w : Wrapper) (i : Info) :
    parseMeta allowed w m i = .error () := by
  rw [parseMeta_eq, den_none_of_not_allowed h hm]; rfl

end Dm.Legacy
