import Dm.Model.Delegate

/-
`singleEnabled` as a statement about the list of enabled fields, and the `Deref` body once it has selected.
-/
namespace Dm.Del

theorem singleEnabled_eq_ok_iff (infos : List Full) (i : Nat) (f : Full) :
    singleEnabled infos = .ok (i, f) ↔ (infos.zipIdx.filter fun x => x.1.enabled) = [(f, i)] := by
  unfold singleEnabled
  split
  · rename_i f' i' h
    rw [h]
    constructor
    · intro he; cases he; rfl
    · intro he; cases he; rfl
  · rename_i hne
    constructor
    · intro he; cases he
    · intro he; exact absurd he (hne f i)

theorem derefBody_of_single {infos : List Full} {i : Nat} {f : Full} (h : singleEnabled infos = .ok (i, f)) :
    derefBody infos = .ok (if f.forward then .forwarded i else .direct i) := by
  rw [derefBody, h]; rfl

end Dm.Del
