import Dm.Model.Hygiene

namespace Dm.Hyg

/-- If a head does not escape, its resolution does not look at the scope, except for `derive_more`. -/
theorem resolveHead_independent {Item : Type} {B : List Nat} (fx : Fixed Item) {σ σ' : Scope Item} {file : Nat}
    {head : Head} (hdm : σ.name idDeriveMore = σ'.name idDeriveMore) (hc : head.escapesIn B file = false) :
    resolveHead B fx σ file head = resolveHead B fx σ' file head := by
  cases head with
  | path n =>
    dsimp only [resolveHead]
    cases hb : B.contains n with
    | true => rfl
    | false =>
      cases hp : isPrimitive n with
      | true => rfl
      | false =>
        -- neither bound by the template nor primitive: `hc` leaves `derive_more` only
        rw [Head.escapesIn, Head.escapes, hb, hp, Bool.false_or, Bool.or_false] at hc
        rw [eq_of_beq ((Bool.not_eq_false' _).mp hc)]
        exact hdm
  -- in the other cases `hc` is the test of `resolveHead`: both sides take the scope-free branch
  | ext n =>
    have hk : (n == idStd) = true := (Bool.not_eq_false' _).mp hc
    simp only [resolveHead, if_pos hk]
  | mac n => cases hc
  | method n =>
    have hk : isKnownMethod n = true := (Bool.not_eq_false' _).mp hc
    simp only [resolveHead, if_pos hk]
  | methodVar =>
    have hk : file < nCurrentImplFiles := of_decide_eq_true ((Bool.not_eq_false' _).mp hc)
    simp only [resolveHead, if_pos hk]
  | assoc y n =>
    have hk : assocOk y n = true := (Bool.not_eq_false' _).mp hc
    simp only [resolveHead, if_pos hk]
  | binder n => rfl

end Dm.Hyg
