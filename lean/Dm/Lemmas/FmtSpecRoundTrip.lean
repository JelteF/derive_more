import Dm.Lemmas.FmtParse

/-
Round trip for arguments, counts and `format_spec` under the table facts `Sane` / `Sane2`: a printed well-formed
derivation is read back as itself in front of anything whose first character the stage in question does not react to.
Each component says once what its first character is (`ArgStart`, `Quiet`, `TypeHead`), each stage what it needs of the
rest's (`Hd`); `formatSpec_render` chains the two.  Last, the one condition on the context (`align_condition`, `PhA.AlignOk`).
-/
namespace Dm.Fmt

/-- What the proof needs from the character tables (true of `unicode-xid` and `char::is_whitespace`;
checked on every run for the tables the implementation uses by the `sanetable` command of the C03 check). -/
structure Sane (cc : CharClasses) : Prop where
  digit_plain : ∀ c, isDigit c = true → cc.isStart c = false ∧ c ≠ '_' ∧ cc.isWs c = false
  ws_plain : ∀ c, cc.isWs c = true →
    cc.isCont c = false ∧ cc.isStart c = false ∧ isDigit c = false ∧ c ≠ '_' ∧ c ≠ ':' ∧ c ≠ '{' ∧ c ≠ '}'
  rbrace_plain : cc.isCont '}' = false ∧ cc.isStart '}' = false ∧ cc.isWs '}' = false
  lbrace_plain : cc.isCont '{' = false ∧ cc.isStart '{' = false ∧ cc.isWs '{' = false
  start_plain : ∀ c, cc.isStart c = true → c ≠ '{' ∧ c ≠ '}'

def specials : List Char := [':', '$', '.', '?', '+', '-', '#', '<', '^', '>', '*']
def tyLetters : List Char := ['x', 'X', 'o', 'p', 'b', 'e', 'E']

/-- Further facts about the character tables (true of `unicode-xid` and `char::is_whitespace`, checked on every
run together with `Sane`): the ASCII punctuation of the spec grammar is neither identifier material nor
whitespace, and the type letters are not whitespace. -/
structure Sane2 (cc : CharClasses) : Prop where
  special_plain : ∀ c ∈ specials, cc.isStart c = false ∧ cc.isCont c = false ∧ cc.isWs c = false
  letter_plain : ∀ c ∈ tyLetters, cc.isWs c = false

/-- A character that neither starts nor continues an argument. -/
structure ArgStop (cc : CharClasses) (x : Char) : Prop where
  not_start : cc.isStart x = false
  not_cont : cc.isCont x = false
  not_digit : isDigit x = false
  not_us : x ≠ '_'

/-- What an argument, hence a count, can begin with. -/
def ArgStart (cc : CharClasses) (c : Char) : Prop := isDigit c = true ∨ cc.isStart c = true ∨ c = '_'

/-- A well-formed argument prints as an `ArgStart` character followed by digits or identifier continuations. -/
theorem ArgA.render_shape {cc : CharClasses} {a : ArgA} (ha : a.WF cc) :
    ∃ c t, a.render = c :: t ∧ ArgStart cc c ∧ ∀ d ∈ t, isDigit d = true ∨ cc.isCont d = true := by
  cases a with
  | idx ds =>
    cases ds with
    | nil => exact absurd rfl (show IsIndex [] from ha).1
    | cons d ds =>
      have hd := (show IsIndex (d :: ds) from ha).2.1
      exact ⟨d, ds, rfl, .inl (hd d (List.mem_cons_self ..)), fun x hx => .inl (hd x (List.mem_cons_of_mem _ hx))⟩
  | name cs =>
    cases cs with
    | nil => exact (show IsIdent cc [] from ha).elim
    | cons c cs =>
      have hi : IsIdent cc (c :: cs) := ha
      exact ⟨c, cs, rfl, .inr (hi.imp (·.1) (·.1)), fun x hx => .inr (hi.elim (·.2 x hx) (·.2.2 x hx))⟩

theorem argument_render_name {cc : CharClasses} {cs r : List Char} (hi : IsIdent cc cs) (hr : Hd (cc.isCont · = false) r) :
    argument cc (cs ++ r) = some (r, .ident cs) :=
  argument_eq_some_iff.mpr (Or.inl ⟨cs, identifier_eq_some_iff.mpr ⟨rfl, hi, hr⟩, rfl⟩)

theorem argument_render_idx {cc : CharClasses} (hs : Sane cc) {ds r : List Char} (hi : IsIndex ds)
    (hr : Hd (isDigit · = false) r) : argument cc (ds ++ r) = some (r, .int (digitsVal ds)) := by
  refine argument_eq_some_iff.mpr (Or.inr ⟨?_, _, integer_eq_some_iff.mpr ⟨ds, rfl, hi, rfl, hr⟩, rfl⟩)
  cases ds with
  | nil => exact absurd rfl hi.1
  | cons d ds =>
    have hd := hs.digit_plain d (hi.2.1 d (List.mem_cons_self ..))
    exact identifier_none_of_head (Hd.cons_iff.mpr ⟨hd.1, hd.2.1⟩)

theorem argument_render {cc : CharClasses} (hs : Sane cc) {a : ArgA} {r : List Char} (ha : a.WF cc)
    (hr : Hd (ArgStop cc) r) : argument cc (a.render ++ r) = some (r, a.toArg) := by
  cases a with
  | name cs => exact argument_render_name ha (hr.mono fun _ => ArgStop.not_cont)
  | idx ds => exact argument_render_idx hs ha (hr.mono fun _ => ArgStop.not_digit)

theorem argStage_render {cc : CharClasses} (hs : Sane cc) {a : Option ArgA} {r : List Char} (ha : ∀ x, a = some x → x.WF cc)
    (hr : Hd (ArgStop cc) r) : argStage cc (optRender ArgA.render a ++ r) = (r, a.map ArgA.toArg) := by
  cases a with
  | none => exact argStage_of_none (argument_none_of_head (hr.mono fun _ h => ⟨h.not_start, h.not_us, h.not_digit⟩))
  | some x => exact argStage_of_argument (argument_render hs (ha x rfl) hr)

/-- What follows the argument or the spec of a placeholder: whitespace then `}`. -/
def Closer (cc : CharClasses) (r : List Char) : Prop :=
  ∃ ws tail, r = ws ++ '}' :: tail ∧ ∀ c ∈ ws, cc.isWs c = true

/-- `}` or whitespace: the first character of a `Closer`. -/
def Closing (cc : CharClasses) (x : Char) : Prop := x = '}' ∨ cc.isWs x = true

theorem Closer.hd {cc : CharClasses} {r : List Char} (h : Closer cc r) : Hd (Closing cc) r := by
  obtain ⟨ws, tail, rfl, hws⟩ := h
  exact Hd.append (Hd.of_forall fun c hc => Or.inr (hws c hc)) (Hd.cons_iff.mpr (Or.inl rfl))

theorem Closer.ne_nil {cc : CharClasses} {r : List Char} (h : Closer cc r) : r ≠ [] := by
  obtain ⟨ws, tail, rfl, _⟩ := h
  exact List.append_ne_nil_of_right_ne_nil _ (List.cons_ne_nil _ _)

theorem skipWs_closer {cc : CharClasses} (hs : Sane cc) {ws : List Char} (tail : List Char) (hws : ∀ c ∈ ws, cc.isWs c = true) :
    skipWs cc (ws ++ '}' :: tail) = '}' :: tail :=
  skipWs_eq_iff.mpr ⟨ws, rfl, hws, Hd.cons_iff.mpr hs.rbrace_plain.2.2⟩

theorem Closing.argStop {cc : CharClasses} (hs : Sane cc) {x : Char} (h : Closing cc x) : ArgStop cc x := by
  rcases h with rfl | hw
  · exact ⟨hs.rbrace_plain.2.1, hs.rbrace_plain.1, by decide, by decide⟩
  · have w := hs.ws_plain x hw
    exact ⟨w.2.1, w.1, w.2.2.1, w.2.2.2.1⟩

theorem Closing.ne_colon_lbrace {cc : CharClasses} (hs : Sane cc) {x : Char} (h : Closing cc x) : x ≠ ':' ∧ x ≠ '{' := by
  rcases h with rfl | hw
  · decide
  · exact ⟨(hs.ws_plain x hw).2.2.2.2.1, (hs.ws_plain x hw).2.2.2.2.2.1⟩

theorem Closing.not_special {cc : CharClasses} (h2 : Sane2 cc) {x : Char} (h : Closing cc x) :
    x ∉ specials ∧ x ∉ tyLetters := by
  rcases h with rfl | hw
  · decide
  · exact ⟨fun hm => Bool.noConfusion ((h2.special_plain x hm).2.2.symm.trans hw),
      fun hm => Bool.noConfusion ((h2.letter_plain x hm).symm.trans hw)⟩

theorem Closing.ne_special {cc : CharClasses} (h2 : Sane2 cc) {x c : Char} (h : Closing cc x) (hc : c ∈ specials) : x ≠ c :=
  fun e => (h.not_special h2).1 (e ▸ hc)

/-- The characters fill/align, sign, `#` and the `$`-lookahead of `0` react to. -/
def flagChars : List Char := ['<', '^', '>', '+', '-', '#', '$']

/-- None of the four flag stages reacts to `x`. -/
@[reducible] def Quiet (x : Char) : Prop := x ∉ flagChars

theorem Quiet.ne {x c : Char} (h : Quiet x) (hc : c ∈ flagChars) : x ≠ c := fun e => h (e ▸ hc)

theorem Quiet.alignOf_none {x : Char} (h : Quiet x) : alignOf x = none := by
  rw [alignOf, if_neg (h.ne (by decide)), if_neg (h.ne (by decide)), if_neg (h.ne (by decide))]

theorem quiet_of_not_special {x : Char} (h : x ∉ specials) : Quiet x :=
  fun hm => h ((by decide : ∀ c ∈ flagChars, c ∈ specials) x hm)

/-- A character of one of the classes is quiet, because no special character is in the class. -/
theorem quiet_of_class (P : Char → Bool) (hP : ∀ c ∈ specials, P c = false) {x : Char} (h : P x = true) : Quiet x :=
  quiet_of_not_special fun hm => Bool.noConfusion ((hP x hm).symm.trans h)

theorem quiet_digit {x : Char} (h : isDigit x = true) : Quiet x := quiet_of_class isDigit (by decide) h

theorem ArgStart.quiet {cc : CharClasses} (h2 : Sane2 cc) {c : Char} (h : ArgStart cc c) : Quiet c := by
  rcases h with h | h | rfl
  · exact quiet_digit h
  · exact quiet_of_class cc.isStart (fun c hc => (h2.special_plain c hc).1) h
  · decide

theorem ArgStart.ne_lbrace {cc : CharClasses} (hs : Sane cc) {c : Char} (h : ArgStart cc c) : c ≠ '{' := by
  rcases h with h | h | rfl
  · intro e; rw [e] at h; exact absurd h (by decide)
  · exact (hs.start_plain c h).1
  · decide

theorem argStop_of_special {cc : CharClasses} (h2 : Sane2 cc) {x : Char} (hx : x ∈ specials) : ArgStop cc x :=
  have h := (by decide : ∀ c ∈ specials, isDigit c = false ∧ c ≠ '_') x hx
  ⟨(h2.special_plain x hx).1, (h2.special_plain x hx).2.1, h.1, h.2⟩

/-- What may follow a count in a spec: no digit and no `$` (a type letter may well be an identifier continuation:
`{:5x}`; a count that is a parameter ends with its own `$`). -/
def CountStop (x : Char) : Prop := isDigit x = false ∧ x ≠ '$'

theorem CountA.hd_render {cc : CharClasses} {w : CountA} (hw : w.WF cc) : Hd (ArgStart cc) w.render := by
  obtain ⟨c, t, e, h⟩ : ∃ c t, w.render = c :: t ∧ ArgStart cc c := by
    cases w with
    | lit ds =>
      obtain ⟨c, t, e, h, _⟩ := ArgA.render_shape (a := .idx ds) hw
      exact ⟨c, t, e, h⟩
    | param a =>
      obtain ⟨c, t, e, h, _⟩ := ArgA.render_shape (a := a) hw
      exact ⟨c, t ++ ['$'], by rw [CountA.render, e]; rfl, h⟩
  rw [e]
  exact Hd.cons_iff.mpr h

theorem count_render {cc : CharClasses} (hs : Sane cc) (h2 : Sane2 cc) {c : CountA} {r : List Char} (hc : c.WF cc)
    (hr : Hd CountStop r) : count cc (c.render ++ r) = some (r, c.toCount) := by
  cases c with
  | lit ds =>
    have harg := argument_render_idx hs (ds := ds) hc (hr.mono fun _ h => h.1)
    refine count_eq_some_iff.mpr (Or.inr ⟨parameter_eq_none_iff.mpr fun r' a e => ?_, _,
      integer_eq_some_iff.mpr ⟨ds, rfl, hc, rfl, hr.mono fun _ h => h.1⟩, rfl⟩)
    -- `argument` reads exactly `ds`, so a parameter would need `r` to start with `$`
    rw [show (CountA.lit ds).render = ds from rfl, harg] at e
    cases e
    exact (Hd.cons_iff.mp hr).2 rfl
  | param a =>
    rw [show (CountA.param a).render ++ r = a.render ++ '$' :: r from List.append_assoc ..]
    exact count_eq_some_iff.mpr (Or.inl ⟨_, parameter_eq_some_iff.mpr
      (argument_render hs hc (Hd.cons_iff.mpr (argStop_of_special h2 (by decide)))), rfl⟩)

/-- `count` fails on a head that is neither a digit nor `_` when, should that head start an identifier, the identifier
ends right after it and no `$` follows. -/
theorem count_none_of_head {cc : CharClasses} {l : Char} {t : List Char} (hd : isDigit l = false) (hu : l ≠ '_')
    (ht : cc.isStart l = true → Hd (fun y => cc.isCont y = false ∧ y ≠ '$') t) : count cc (l :: t) = none := by
  have hint : integer (l :: t) = none := integer_none_of_head (Hd.cons_iff.mpr hd)
  have hpar : parameter cc (l :: t) = none := by
    refine parameter_eq_none_iff.mpr fun r a e => ?_
    by_cases hst : cc.isStart l = true
    · have : argument cc (l :: t) = some (t, .ident [l]) :=
        argument_render_name (cs := [l]) (Or.inl ⟨hst, (fun _ h => nomatch h)⟩) ((ht hst).mono fun _ h => h.1)
      rw [this] at e; cases e
      exact (Hd.cons_iff.mp (ht hst)).2 rfl
    · rw [argument_none_of_head (Hd.cons_iff.mpr ⟨Bool.eq_false_iff.mpr hst, hu, hd⟩)] at e
      cases e
  unfold count
  rw [hpar, hint]

theorem count_none_of_argStop {cc : CharClasses} {r : List Char} (hr : Hd (ArgStop cc) r) : count cc r = none := by
  cases r with
  | nil => rfl
  | cons x t =>
    have hx := Hd.cons_iff.mp hr
    exact count_none_of_head hx.not_digit hx.not_us fun h => by rw [hx.not_start] at h; cases h

/-- What a printed type can begin with. -/
def tyHeads : List Char := '?' :: tyLetters

theorem Ty.render_shape (ty : Ty) : (∀ c ∈ ty.render, c ∈ tyHeads) ∧ ∀ y ∈ ty.render.tail, y = '?' := by
  cases ty <;> decide

/-- What the stages in front of the type need of the first character of `type ++ closing part`. -/
structure TypeHead (x : Char) : Prop where
  quiet : Quiet x
  ne_dot : x ≠ '.'
  not_digit : isDigit x = false
  ne_us : x ≠ '_'

theorem typeHead_of_tyHeads {l : Char} (hl : l ∈ tyHeads) : TypeHead l :=
  have h := (by decide : ∀ l ∈ tyHeads, Quiet l ∧ l ≠ '.' ∧ isDigit l = false ∧ l ≠ '_') l hl
  ⟨h.1, h.2.1, h.2.2.1, h.2.2.2⟩

theorem Ty.hd_render {cc : CharClasses} (hs : Sane cc) (h2 : Sane2 cc) (ty : Ty) {after : List Char} (hc : Closer cc after) :
    Hd TypeHead (ty.render ++ after) :=
  Hd.append (Hd.of_forall fun c hc => typeHead_of_tyHeads ((Ty.render_shape ty).1 c hc))
    (hc.hd.mono fun x hx => ⟨quiet_of_not_special (hx.not_special h2).1,
      hx.ne_special h2 (by decide), (hx.argStop hs).not_digit, (hx.argStop hs).not_us⟩)

/-- With no width and no precision `count` is tried on the type itself; a type letter may start an identifier, but
then `?`, whitespace or `}` ends it, and none of them is `$`. -/
theorem count_none_of_ty_render {cc : CharClasses} (hs : Sane cc) (h2 : Sane2 cc) (ty : Ty) {after : List Char}
    (hc : Closer cc after) : count cc (ty.render ++ after) = none := by
  have hafter : Hd (fun y => cc.isCont y = false ∧ y ≠ '$') after :=
    hc.hd.mono fun x hx => ⟨(hx.argStop hs).not_cont, hx.ne_special h2 (by decide)⟩
  cases e : ty.render with
  | nil => exact count_none_of_argStop (hc.hd.mono fun _ h => h.argStop hs)
  | cons l m =>
    obtain ⟨hl, hm⟩ := Ty.render_shape ty
    rw [e] at hl hm
    have hl := typeHead_of_tyHeads (hl l (List.mem_cons_self ..))
    refine count_none_of_head hl.not_digit hl.ne_us fun _ => Hd.append (Hd.of_forall fun y hy => ?_) hafter
    rw [hm y hy]
    exact ⟨(h2.special_plain '?' (by decide)).2.1, by decide⟩

theorem type_fallthrough (cc : CharClasses) {s : List Char} (h : Hd (· ∉ tyHeads) s) :
    type_ cc s = match skipWs cc s with | '}' :: _ => some (s, .display) | _ => none := by
  rcases type_spec cc s with ⟨ty, r, _, e, hne⟩ | h'
  · cases e' : ty.render with
    | nil => exact absurd e' hne
    | cons l m =>
      rw [e, e'] at h
      exact absurd ((Ty.render_shape ty).1 l (e' ▸ List.mem_cons_self ..)) (Hd.cons_iff.mp h)
  · exact h'

theorem type_render {cc : CharClasses} (hs : Sane cc) (h2 : Sane2 cc) (ty : Ty) {after : List Char} (hc : Closer cc after) :
    type_ cc (ty.render ++ after) = some (after, ty) := by
  have hq : Hd (· ≠ '?') after := hc.hd.mono fun x hx => hx.ne_special h2 (by decide)
  cases ty with
  | display =>
    have hh : Hd (· ∉ tyHeads) after := hc.hd.mono fun x hx hm => by
      rcases List.mem_cons.mp hm with e | hm
      · exact (hx.not_special h2).1 (e ▸ by decide)
      · exact (hx.not_special h2).2 hm
    obtain ⟨ws, tail, rfl, hws⟩ := hc
    rw [show Ty.display.render ++ (ws ++ '}' :: tail) = ws ++ '}' :: tail from rfl, type_fallthrough cc hh,
      skipWs_closer hs tail hws]
    rfl
  | lowerHex => exact (type_hex cc hq).1
  | upperHex => exact (type_hex cc hq).2
  | _ => rfl

theorem fillAlign_render {s : SpecA} {r : List Char}
    (hr : Hd (alignOf · = none) r) (hr2 : s.align = none → ∀ x y t, r = x :: y :: t → alignOf y = none) :
    fillAlign (s.renderFillAlign ++ r) = (r, s.align.map fun a => (s.fill, a)) := by
  unfold SpecA.renderFillAlign
  -- in each case the rewrites are the tests `fillAlign` makes, in its order: second character, then first
  cases ha : s.align with
  | some a =>
    cases hf : s.fill with
    | some f =>
      show fillAlign (f :: a.render :: r) = _
      rw [fillAlign, alignOf_eq_some_iff.mpr rfl]; rfl
    | none =>
      show fillAlign (a.render :: r) = _
      cases r with
      | nil => rw [fillAlign, alignOf_eq_some_iff.mpr rfl]; rfl
      | cons x t => rw [fillAlign, Hd.cons_iff.mp hr, alignOf_eq_some_iff.mpr rfl]; rfl
  | none =>
    show fillAlign r = _
    cases r with
    | nil => rfl
    | cons x t =>
      cases t with
      | nil => rw [fillAlign, Hd.cons_iff.mp hr]; rfl
      | cons y t => rw [fillAlign, hr2 ha x y t rfl, Hd.cons_iff.mp hr]; rfl

theorem signOf_render {sg : Option Sign} {r : List Char} (hr : Hd (fun x => x ≠ '+' ∧ x ≠ '-') r) :
    signOf (optRender (fun sg => [Sign.render sg]) sg ++ r) = (r, sg) := by
  cases sg with
  | some g => cases g <;> rfl
  | none =>
    show signOf r = (r, none)
    unfold signOf
    split
    · exact absurd rfl (Hd.cons_iff.mp hr).1
    · exact absurd rfl (Hd.cons_iff.mp hr).2
    · rfl

theorem altOf_render {alt : Bool} {r : List Char} (hr : Hd (· ≠ '#') r) :
    altOf ((if alt then ['#'] else []) ++ r) = (r, alt) := by
  cases alt with
  | true => rfl
  | false =>
    show altOf r = (r, false)
    unfold altOf
    split
    · exact absurd rfl (Hd.cons_iff.mp hr)
    · rfl

/-- `zeroOf`: with the flag printed, what follows exists and is not `$`; without it, what follows does not start with
`0`, or starts with `0$`. -/
theorem zeroOf_render {z : Bool} {r : List Char} (ht : z = true → r ≠ [] ∧ Hd (· ≠ '$') r)
    (hf : z = false → Hd (· ≠ '0') r ∨ ∃ t, r = '0' :: '$' :: t) : zeroOf ((if z then ['0'] else []) ++ r) = (r, z) := by
  cases z with
  | true =>
    cases r with
    | nil => exact absurd rfl (ht rfl).1
    | cons x t =>
      show zeroOf ('0' :: x :: t) = _
      rw [zeroOf, if_neg (Hd.cons_iff.mp (ht rfl).2)]
  | false =>
    show zeroOf r = (r, false)
    rcases hf rfl with h | ⟨t, rfl⟩
    · unfold zeroOf
      split
      · exact absurd rfl (Hd.cons_iff.mp h)
      · rfl
    · rfl

theorem widthStage_render {cc : CharClasses} (hs : Sane cc) (h2 : Sane2 cc) {s : SpecA} (hw : ∀ w, s.width = some w → w.WF cc)
    {r : List Char} (hr : Hd CountStop r) (hn : s.width = none → count cc r = none) :
    widthStage cc (s.renderWidth ++ r) = (r, s.width.map CountA.toCount) := by
  unfold SpecA.renderWidth
  cases hwd : s.width with
  | none => exact widthStage_of_none (hn hwd)
  | some w => exact widthStage_of_count (count_render hs h2 (hw w hwd) hr)

theorem precStage_render {cc : CharClasses} (hs : Sane cc) (h2 : Sane2 cc) {s : SpecA} (hp : ∀ p, s.prec = some p → p.WF cc)
    {r : List Char} (hr : Hd (fun x => CountStop x ∧ x ≠ '.') r) :
    precStage cc (s.renderPrec ++ r) = some (r, s.prec.map PrecA.toPrec) := by
  unfold SpecA.renderPrec
  cases hpr : s.prec with
  | none => exact precStage_of_head (hr.mono fun _ h => h.2)
  | some p =>
    refine precStage_of_precision ?_
    cases p with
    | count c =>
      exact precision_eq_some_iff.mpr (Or.inl ⟨_, count_render hs h2 (hp _ hpr) (hr.mono fun _ h => h.1), rfl⟩)
    | star =>
      exact precision_eq_some_iff.mpr
        (Or.inr ⟨count_none_of_argStop (Hd.cons_iff.mpr (argStop_of_special h2 (by decide))), rfl, rfl⟩)

/-- What `SpecA.ZeroCanonical` says about the text: without the zero flag, width and what follows it do not start with
`0`, unless with `0$`. -/
theorem zeroCanonical_head {cc : CharClasses} {s : SpecA} (hw : s.WF cc) (hz : s.zero = false) {r : List Char}
    (hr : Hd (isDigit · = false) r) : Hd (· ≠ '0') (s.renderWidth ++ r) ∨ ∃ t, s.renderWidth ++ r = '0' :: '$' :: t := by
  have hzc := hw.zero hz
  have hr0 : Hd (· ≠ '0') r := hr.mono fun x hx e => by rw [e] at hx; exact absurd hx (by decide)
  unfold SpecA.renderWidth
  cases hwd : s.width with
  | none => exact Or.inl hr0
  | some w =>
    rw [hwd] at hzc
    rcases hzc with h | rfl
    · exact Or.inl (Hd.append (fun x hx e0 => h (e0 ▸ hx)) hr0)
    · exact Or.inr ⟨r, rfl⟩

/-- Everything printed after fill/align. -/
def SpecA.renderRest (s : SpecA) : List Char :=
  optRender (fun sg => [Sign.render sg]) s.sign ++ ((if s.alt then ['#'] else []) ++ ((if s.zero then ['0'] else [])
    ++ (s.renderWidth ++ (s.renderPrec ++ s.ty.render))))

/-- **`format_spec` reads back a printed spec.** `after` is the closing part (`[ws]* '}' tail`). The last
hypothesis is the std-canonical choice for the one real ambiguity that involves the context: without an
alignment, the second character of what follows must not be an alignment character (it would make the first a
fill: `{:}<` is fill `}` with `<`, not an empty spec followed by `<`). -/
theorem formatSpec_render {cc : CharClasses} (hs : Sane cc) (h2 : Sane2 cc) {s : SpecA} (hw : s.WF cc)
    {after : List Char} (hc : Closer cc after)
    (hal : s.align = none → ∀ x y r, s.renderRest ++ after = x :: y :: r → alignOf y = none) :
    formatSpec cc (s.render ++ after) = some (after, s.toSpec) := by
  have e1 : s.renderRest ++ after = optRender (fun sg => [Sign.render sg]) s.sign ++ ((if s.alt then ['#'] else []) ++
      ((if s.zero then ['0'] else []) ++ (s.renderWidth ++ (s.renderPrec ++ (s.ty.render ++ after))))) := by
    simp only [SpecA.renderRest, List.append_assoc]
  /- The first character of each remainder, from the type backwards. A remainder starts with the first character of its
  own component or, when that prints nothing, as the remainder after it does. The stage that reads a component is handed
  the fact about the remainder after that component: the line above its own (`fillAlign` the last line, `type_` `hc`).
      remainder       its first character is     since its own component starts with
      ty ++ after     `TypeHead`                 a type character (`after`: a `Closing` one)
      prec ++ …       `Quiet`, no digit          `.`
      width ++ …      `Quiet`                    an `ArgStart` character
      zero ++ …       `Quiet`                    `0`
      alt ++ …        no alignment, no sign      `#`
      sign ++ …       no alignment               `+`, `-`  -/
  have hTy : Hd TypeHead (s.ty.render ++ after) := Ty.hd_render hs h2 s.ty hc
  have hPrec : Hd (fun x => Quiet x ∧ isDigit x = false) (s.renderPrec ++ (s.ty.render ++ after)) := by
    refine Hd.append ?_ (hTy.mono fun x h => ⟨h.quiet, h.not_digit⟩)
    unfold SpecA.renderPrec
    cases s.prec with
    | none => exact Hd.nil
    | some p => exact Hd.cons_iff.mpr (by decide)
  have hWidth : Hd Quiet (s.renderWidth ++ (s.renderPrec ++ (s.ty.render ++ after))) :=
    Hd.append (Hd.optRender fun w hwd => (CountA.hd_render (hw.width w hwd)).mono fun _ h => h.quiet h2)
      (hPrec.mono fun x h => h.1)
  have hWidthNe : s.renderWidth ++ (s.renderPrec ++ (s.ty.render ++ after)) ≠ [] :=
    List.append_ne_nil_of_right_ne_nil _ (List.append_ne_nil_of_right_ne_nil _ (List.append_ne_nil_of_right_ne_nil _ hc.ne_nil))
  have hZero := Hd.append (Hd.ite s.zero '0' (quiet_digit (by decide))) hWidth
  have hAlt := Hd.append (Hd.ite (P := fun x => alignOf x = none ∧ x ≠ '+' ∧ x ≠ '-') s.alt '#' (by decide))
    (hZero.mono fun x h => ⟨h.alignOf_none, h.ne (by decide), h.ne (by decide)⟩)
  have hSign := Hd.append (P := (alignOf · = none)) (l := optRender (fun sg => [Sign.render sg]) s.sign)
    (Hd.optRender fun g _ => Hd.cons_iff.mpr (by cases g <;> rfl)) (hAlt.mono fun x h => h.1)
  -- no width: `count` fails in front of the precision or the type
  have hcn : count cc (s.renderPrec ++ (s.ty.render ++ after)) = none := by
    unfold SpecA.renderPrec
    cases s.prec with
    | none => exact count_none_of_ty_render hs h2 s.ty hc
    | some p => exact count_none_of_argStop (Hd.cons_iff.mpr (argStop_of_special h2 (by decide)))
  rw [SpecA.render_append]
  exact formatSpec_eq_some_iff.mpr ⟨_, _, _, _, _, _,
    fillAlign_render hSign (fun ha x y r e => hal ha x y r (e1.trans e)),
    signOf_render (hAlt.mono fun x h => h.2),
    altOf_render (hZero.mono fun x h => h.ne (by decide)),
    zeroOf_render (fun _ => ⟨hWidthNe, hWidth.mono fun x h => h.ne (by decide)⟩)
      (fun hz => zeroCanonical_head hw hz (hPrec.mono fun x h => h.2)),
    widthStage_render hs h2 hw.width (hPrec.mono fun x h => ⟨h.2, h.1.ne (by decide)⟩) (fun _ => hcn),
    precStage_render hs h2 hw.prec (hTy.mono fun x h => ⟨⟨h.not_digit, h.quiet.ne (by decide)⟩, h.ne_dot⟩),
    type_render hs h2 s.ty hc⟩

theorem forall_mem_ite {P : Char → Prop} (b : Bool) (x : Char) (h : P x) : ∀ c ∈ (if b then [x] else []), P c := by
  cases b with
  | false => exact fun _ h => nomatch h
  | true => exact fun c hc => by rw [List.mem_singleton.mp hc]; exact h

theorem forall_mem_optRender {α : Type} {P : Char → Prop} {f : α → List Char} {o : Option α}
    (h : ∀ a, o = some a → ∀ c ∈ f a, P c) : ∀ c ∈ optRender f o, P c := by
  cases o with
  | none => exact fun _ h => nomatch h
  | some a => exact h a rfl

theorem ArgA.alignOf_none_of_mem_render {cc : CharClasses} (h2 : Sane2 cc) {a : ArgA} (ha : a.WF cc) : ∀ c ∈ a.render, alignOf c = none := by
  obtain ⟨c, t, e, hc, ht⟩ := ArgA.render_shape ha
  rw [e]
  intro x hx
  rcases List.mem_cons.mp hx with rfl | hx
  · exact (hc.quiet h2).alignOf_none
  · exact ((ht x hx).elim quiet_digit
      (quiet_of_class cc.isCont fun c hc => (h2.special_plain c hc).2.1)).alignOf_none

theorem CountA.alignOf_none_of_mem_render {cc : CharClasses} (h2 : Sane2 cc) {w : CountA} (hw : w.WF cc) : ∀ c ∈ w.render, alignOf c = none := by
  intro c hc
  cases w with
  | lit ds => exact ArgA.alignOf_none_of_mem_render h2 (a := .idx ds) hw c hc
  | param a =>
    rcases List.mem_append.mp hc with hc | hc
    · exact ArgA.alignOf_none_of_mem_render h2 hw c hc
    · rw [List.mem_singleton.mp hc]; decide

theorem SpecA.alignOf_none_of_mem_renderRest {cc : CharClasses} (h2 : Sane2 cc) {s : SpecA} (hw : s.WF cc) : ∀ c ∈ s.renderRest, alignOf c = none := by
  refine List.forall_mem_append.mpr ⟨?sign, List.forall_mem_append.mpr ⟨?alt, List.forall_mem_append.mpr ⟨?zero,
    List.forall_mem_append.mpr ⟨?width, List.forall_mem_append.mpr ⟨?prec, ?ty⟩⟩⟩⟩⟩
  case sign => exact forall_mem_optRender fun g _ c hc => List.mem_singleton.mp hc ▸ (by cases g <;> rfl)
  case alt => exact forall_mem_ite _ _ (by decide)
  case zero => exact forall_mem_ite _ _ (by decide)
  case width => exact forall_mem_optRender fun w hwd => CountA.alignOf_none_of_mem_render h2 (hw.width w hwd)
  case prec =>
    unfold SpecA.renderPrec
    cases hpr : s.prec with
    | none => exact fun _ h => nomatch h
    | some p =>
      refine List.forall_mem_cons.mpr ⟨by decide, ?_⟩
      cases p with
      | count w => exact CountA.alignOf_none_of_mem_render h2 (hw.prec _ hpr)
      | star => decide
  case ty => exact fun c hc => (typeHead_of_tyHeads ((Ty.render_shape s.ty).1 c hc)).quiet.alignOf_none

/-- The context condition of `formatSpec_render` holds unless the printed spec is empty, no whitespace follows, and
the text after the closing brace starts with an alignment character. -/
theorem align_condition {cc : CharClasses} (h2 : Sane2 cc) {s : SpecA} (hw : s.WF cc) {ws tail : List Char}
    (hws : ∀ c ∈ ws, cc.isWs c = true)
    (h : s.renderRest = [] → ws = [] → ∀ c t, tail = c :: t → alignOf c = none) :
    ∀ x y r, s.renderRest ++ (ws ++ '}' :: tail) = x :: y :: r → alignOf y = none := by
  intro x y r e
  have hbody : ∀ c ∈ s.renderRest ++ ws, alignOf c = none :=
    List.forall_mem_append.mpr ⟨SpecA.alignOf_none_of_mem_renderRest h2 hw, fun c hc =>
      (quiet_of_class cc.isWs (fun c hc => (h2.special_plain c hc).2.2) (hws c hc)).alignOf_none⟩
  rw [← List.append_assoc] at e
  -- `y` is the second character of the body, or `}` after a body of one character, or the head of `tail` after none
  cases hb : s.renderRest ++ ws with
  | nil =>
    rw [hb] at e
    obtain ⟨h1, h2'⟩ := List.append_eq_nil_iff.mp hb
    exact h h1 h2' y r (List.cons.inj e).2
  | cons b1 bs =>
    rw [hb] at e hbody
    cases bs with
    | nil => rw [← (List.cons.inj (List.cons.inj e).2).1]; decide
    | cons b2 bs' =>
      rw [← (List.cons.inj (List.cons.inj e).2).1]
      exact hbody b2 (List.mem_cons_of_mem _ (List.mem_cons_self ..))

/-- The one context-dependent ambiguity of the grammar, excluded as std resolves it: `{:}` / `{0:}` (empty spec, no
whitespace) directly followed by `<`, `^` or `>` is read as a fill `}` with that alignment. -/
def PhA.AlignOk (p : PhA) (tail : List Char) : Prop :=
  ∀ s, p.spec = some s → s.align = none → s.renderRest = [] → p.ws = [] → ∀ c t, tail = c :: t → alignOf c = none

end Dm.Fmt
