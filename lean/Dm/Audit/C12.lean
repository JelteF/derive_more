import Dm.Props.C12
#print axioms Dm.Props.C12.const_is_discriminant
#print axioms Dm.Props.C12.try_from_iff
#print axioms Dm.Props.C12.cast_roundtrip
#print axioms Dm.Props.C12.no_variant_is_err
#print axioms Dm.Props.C12.repr_single_attr
#print axioms Dm.TF.constsFrom_eq
#print axioms Dm.Props.C12.repr_none
#print axioms Dm.TF.wrap_of_fits
#print axioms Dm.TF.wrap_add_wrap
#print axioms Dm.Props.C12.constW_exact
#print axioms Dm.TF.constsFromW_eq
#print axioms Dm.Props.C12.consts_in_repr_are_discriminants
#print axioms Dm.Props.C12.i8_far_variant_witness
#print axioms Dm.Props.C12.source_repr_ints_are_the_model
#print axioms Dm.Props.C12.int_hint_found_anywhere
