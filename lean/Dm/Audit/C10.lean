import Dm.Props.C10
#print axioms Dm.Props.C10.add_struct
#print axioms Dm.Props.C10.mul_scalar
#print axioms Dm.Props.C10.unary_struct
#print axioms Dm.Props.C10.assign_matches_binary
#print axioms Dm.Props.C10.sum_is_fieldwise_fold
#print axioms Dm.Props.C10.add_enum_same_variant
#print axioms Dm.Props.C10.add_enum_unit_variant
#print axioms Dm.Props.C10.add_enum_different_variants
#print axioms Dm.Props.C10.not_enum_maps_fields
#print axioms Dm.Props.C10.not_enum_unit_variant
#print axioms Dm.Props.C10.not_enum_result_iff_unit_variant
