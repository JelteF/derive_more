import Dm.Props.C01
#print axioms Dm.Props.C01.lifetimes_first_impl
#print axioms Dm.Props.C01.self_args_exact
#print axioms Dm.Props.C01.args_declared_plain
#print axioms Dm.Props.C01.args_declared_bound
#print axioms Dm.Props.C01.args_declared_extra_param
#print axioms Dm.Props.C01.args_declared_extra_type_param
#print axioms Dm.Props.C01.args_declared_where
#print axioms Dm.Props.C01.extra_type_param_perm
#print axioms Dm.Props.C01.fresh_param_unique
#print axioms Dm.Props.C01.where_predicates_kept
#print axioms Dm.Props.C01.added_bounds_in_scope
#print axioms Dm.Gnr.lifetimesFirst_append
#print axioms Dm.Props.C01.impl_params_have_no_defaults
#print axioms Dm.Gnr.implParams_kind_name
#print axioms Dm.Gnr.header_argsDeclared_iff
