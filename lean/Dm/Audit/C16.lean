import Dm.Props.C16
#print axioms Dm.Props.C16.takeUntilComma_stop
#print axioms Dm.Props.C16.expr_reemitted_verbatim
#print axioms Dm.Props.C16.ident_iff_single_identifier
#print axioms Dm.Props.C16.arg_reemitted_verbatim
#print axioms Dm.Props.C16.parseArgsLoop_splitOf
#print axioms Dm.Props.C16.args_reemitted_verbatim
#print axioms Dm.Props.C16.exprStep_plain
#print axioms Dm.Props.C16.balancedLoop_bal
#print axioms Dm.Props.C16.balancedPair_bal
#print axioms Dm.Props.C16.turbofish_taken_whole
#print axioms Dm.Props.C16.qualified_path_taken_whole
#print axioms Dm.Split.balancedPair_closure
#print axioms Dm.Split.exprStep_closure
#print axioms Dm.Props.C16.takeUntilComma_scans
#print axioms Dm.Props.C16.chunked_scans
#print axioms Dm.Props.C16.chunked_taken_whole
#print axioms Dm.Props.C16.parseExpr_eq_scan
#print axioms Dm.Props.C16.NotAliasStart.append
#print axioms Dm.Props.C16.parseArg_chunked
#print axioms Dm.Props.C16.parseArgsLoop_joinC
#print axioms Dm.Props.C16.chunked_list_split_at_commas
#print axioms Dm.Props.C16.chunked_of_plain
#print axioms Dm.Props.C16.plain_list_split_at_commas
#print axioms Dm.Props.C16.binary_or_swallows_comma
#print axioms Dm.Props.C16.cast_to_generic_type_is_split
#print axioms Dm.Props.C16.lt_and_gt_global_path_is_one_argument
