import Dm.Props.C18
#print axioms Dm.Props.C18.char_wb
#print axioms Dm.Props.C18.check_char_wb
#print axioms Dm.Props.C18.any_char_wb
#print axioms Dm.Props.C18.str_wb
#print axioms Dm.Props.C18.one_of_wb
#print axioms Dm.Props.C18.take_while0_total
#print axioms Dm.Props.C18.take_while1_spec
#print axioms Dm.Props.C18.take_until1_spec
#print axioms Dm.Props.C18.no_unaccounted_site
#print axioms Dm.Props.C18.error_positions_in_bounds
#print axioms Dm.Props.C18.error_all_index_in_bounds
