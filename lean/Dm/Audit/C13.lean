import Dm.Props.C13
#print axioms Dm.Props.C13.enum_parse_iff
#print axioms Dm.Props.C13.own_name_roundtrip
#print axioms Dm.Props.C13.rejected_otherwise
#print axioms Dm.Props.C13.newtype_delegates
#print axioms Dm.Props.C13.accepts_unique
#print axioms Dm.Props.C13.same_lowering_suffices
#print axioms Dm.Props.C13.different_lowering_breaks_roundtrip
