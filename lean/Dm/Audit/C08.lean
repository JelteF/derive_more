import Dm.Props.C08
#print axioms Dm.Props.C08.from_ith
#print axioms Dm.Props.C08.forward_one_from_per_field
#print axioms Dm.Props.C08.impl_count
#print axioms Dm.Props.C08.unannotated_variant_skipped
#print axioms Dm.Props.C08.unit_variant_skipped
#print axioms Dm.Props.C08.into_fields_in_order
#print axioms Dm.Props.C08.intoKind_count
#print axioms Dm.Props.C08.into_from_id
#print axioms Dm.Props.C08.from_into_id
#print axioms Dm.Props.C08.new_ith
#print axioms Dm.Props.C08.direct_inits_eval
#print axioms Dm.Props.C08.explicit_variant_anywhere_switches_off
#print axioms Dm.Props.C08.evalInit_direct_comp
#print axioms Dm.Props.C08.evalInit_conv
#print axioms Dm.Props.C08.conv_inits_eval
#print axioms Dm.Props.C08.evalInto_range
