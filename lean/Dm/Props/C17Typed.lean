import Dm.Lemmas.TypedAttr
import Dm.Lemmas.TypedInto

/-
C17 — synonymous attribute spellings are equivalent; contradictory ones rejected: the *typed* attribute
parsers of `utils.rs` (`mod attr`) used by From, AsRef / AsMut and TryFrom, and the Into derive's own parser.
`p` ranges over the two `Either` chains `attr::Conversion` (struct level) and `attr::FieldConversion`
(variant / field level), with or without from.rs's legacy-syntax guard. All statements are about every
attribute list.
-/
namespace Dm.Props.C17
open Dm.TypedAttr

/-- Several attributes, each accepted as a type list, mean the concatenation of their lists. -/
theorem many_type_lists {p : Attr → Option Conv} (c : Args) (cs : List Args)
    (hc : ∀ a ∈ c :: cs, p (.list a) = some (.types a.items)) :
    parseAttrs p ((c :: cs).map .list) = some (some (.types ((c :: cs).map (·.items)).flatten)) := by
  have hrest : ∀ (l : List Args) (acc : List Item), (∀ a ∈ l, p (.list a) = some (.types a.items)) →
      parseAttrsFrom p (some (.types acc)) (l.map .list) = some (some (.types (acc ++ (l.map (·.items)).flatten))) := by
    intro l acc hl
    induction l generalizing acc with
    | nil => exact congrArg (fun x => some (some (Conv.types x))) (List.append_nil acc).symm
    | cons a rest ih =>
      simp only [List.map_cons, parseAttrsFrom, hl a List.mem_cons_self, Conv.merge]
      rw [ih _ fun b hb => hl b (List.mem_cons_of_mem _ hb), List.flatten_cons, List.append_assoc]
  simp only [parseAttrs, List.map_cons, parseAttrsFrom, hc c List.mem_cons_self]
  exact hrest cs _ fun b hb => hc b (List.mem_cons_of_mem _ hb)

/-- **One attribute listing several types ≡ several attributes listing some each**: whenever the single
attribute `one` and the attributes `c :: cs` are type lists with the same types in the same order, they mean
the same. -/
theorem types_one_attribute_or_many {p : Attr → Option Conv} (one c : Args) (cs : List Args)
    (hone : p (.list one) = some (.types one.items))
    (hc : ∀ a ∈ c :: cs, p (.list a) = some (.types a.items))
    (heq : one.items = ((c :: cs).map (·.items)).flatten) :
    parseAttrs p [.list one] = parseAttrs p ((c :: cs).map .list) := by
  rw [many_type_lists c cs hc, parseAttrs_single, hone, heq]; rfl

/-- **Trailing comma** after a non-empty argument list changes nothing, unless it turns the lone word
`forward` / `skip` / `ignore` into a one-element type list (`#[from(forward,)]` is the type `forward`). -/
theorem trailing_comma {p : Attr → Option Conv} (hp : IsConvParser p) (items : List Item) (hne : items ≠ [])
    (hw : items ≠ [.word .forward] ∧ items ≠ [.word .skip] ∧ items ≠ [.word .ignore]) :
    p (.list ⟨items, true⟩) = p (.list ⟨items, false⟩) := by
  obtain ⟨h1, h2, h3⟩ := hw
  have hT : ∀ l, pTypes l (.list ⟨items, true⟩) = pTypes l (.list ⟨items, false⟩) := by
    intro l
    cases items
    · exact absurd rfl hne
    · rfl
  cases hp with
  | conversion l => rw [pConversion_list l h1, pConversion_list l h1, hT]
  | field l => rw [pFieldConversion_list l h1 h2 h3, pFieldConversion_list l h1 h2 h3, hT]

/-- **`skip` ≡ `ignore`** where skipping is an option (variant / field level). -/
theorem skip_ignore_synonyms (l : Bool) :
    pFieldConversion l (.list ⟨[.word .skip], false⟩) = some .skip ∧
    pFieldConversion l (.list ⟨[.word .ignore], false⟩) = some .skip := by
  cases l <;> exact ⟨rfl, rfl⟩

/-- **Any order of the attributes**: a permutation of an accepted attribute list is accepted, with the same
meaning — for type lists, the same types up to their order. -/
theorem attribute_order_free {p : Attr → Option Conv} {attrs attrs' : List Attr} (h : attrs.Perm attrs') {r : Option Conv}
    (hr : parseAttrs p attrs = some r) :
    ∃ r', parseAttrs p attrs' = some r' ∧
      (r' = r ∨ ∃ xs ys, r = some (.types xs) ∧ r' = some (.types ys) ∧ xs.Perm ys) := by
  rw [parseAttrs, parseAttrsFrom_eq] at hr ⊢
  refine mergeFold.perm Conv.oneKind (fun hp => ?_) h hr
  simpa only [typeLists_product, List.nil_append] using hp.flatten

/-- **Duplicated or contradicting attributes are rejected**: two attributes of the derive's name on one item
are accepted only when both are type lists. A second `#[from]`, `#[from(forward)]`, `#[from(skip)]`, and
any pair of different kinds (`skip` with `forward`, `forward` with types, `#[as_ref]` with `#[as_ref(skip)]`, …)
make the derive fail. -/
theorem two_attributes_only_type_lists {p : Attr → Option Conv} (a b : Attr) (rest : List Attr) {r : Option Conv}
    (hr : parseAttrs p (a :: b :: rest) = some r) :
    ∀ x ∈ a :: b :: rest, ∃ xs, p x = some (.types xs) := by
  rw [parseAttrs, parseAttrsFrom_eq] at hr
  exact mergeFold.many_some Conv.oneKind hr

/-- **Unknown or malformed arguments are rejected**: every argument of an accepted attribute is something
`syn` reads as a type. A literal, a nested list (`bogus(u8)`, `owned(u8)`, the legacy `types(u8)`), the keyword
`ref`, or `name = value` anywhere in the list makes the derive fail. -/
theorem accepted_arguments_are_types {p : Attr → Option Conv} (hp : IsConvParser p) (args : Args) {c : Conv}
    (h : p (.list args) = some c) : ∀ x ∈ args.items, isType x = true := by
  intro x hx
  rcases convParser_some hp h with ⟨h, _⟩ | ⟨h | h, _⟩ | ⟨h, _⟩ | ⟨args', h1, _, h3⟩
  · cases h
  · cases h; cases List.mem_singleton.mp hx; rfl
  · cases h; cases List.mem_singleton.mp hx; rfl
  · cases h; cases List.mem_singleton.mp hx; rfl
  · cases h1
    simp only [allTypes, List.all_eq_true] at h3
    exact h3 x hx

/-- **Legacy syntax is rejected** by the From derive: an argument list led by `types` / `types(...)`. -/
theorem from_legacy_rejected (items : List Item) (t : Bool) (h : startsWithTypes items = true) :
    pConversion true (.list ⟨items, t⟩) = none ∧ pFieldConversion true (.list ⟨items, t⟩) = none := by
  have hne : ∀ w, startsWithTypes [.word w] = false → items ≠ [.word w] := by
    intro w hw he
    rw [he, hw] at h
    cases h
  have hT : pTypes true (.list ⟨items, t⟩) = none := by rw [pTypes, Bool.true_and, if_pos h]
  rw [pConversion_list true (hne _ rfl), pFieldConversion_list true (hne _ rfl) (hne _ rfl) (hne _ rfl)]
  exact ⟨hT, hT⟩

/-- The TryFrom derive generates its conversion for exactly one attribute set: a single `#[try_from(repr)]`.
A repeated `repr`, `repr(<types>)` ("not supported yet"), anything else inside, or a trailing comma fail; no
attribute at all generates nothing. -/
theorem try_from_accepts_exactly (attrs : List Attr) :
    (tryFromItem attrs = some true ↔ attrs = [.list ⟨[.word .repr], false⟩]) ∧
    (tryFromItem attrs = some false ↔ attrs = []) := by
  rcases attrs with _ | ⟨a, _ | ⟨b, rest⟩⟩
  · simp [tryFromItem, parseRepr, parseReprFrom]
  · rw [tryFromItem, parseRepr_single, List.cons.injEq, and_iff_left rfl, ← pRepr_discriminant_iff]
    cases pRepr a with
    | none => simp
    | some c => cases c <;> simp
  · have hnone : tryFromItem (a :: b :: rest) = none := by
      rw [tryFromItem, parseRepr_many]
      cases (a :: b :: rest).all fun x => ((pRepr x).bind ReprConv.tys?).isSome <;> rfl
    rw [hnone]
    simp

/-- **`#[into(a, b)]` ≡ `#[into(a)] #[into(b)]`** (also with `owned(..)`, `ref(..)`, `ref_mut(..)`): when the one
attribute is accepted, so are the two, and they mean the same. -/
theorem into_one_attribute_or_many (xs ys : List Item) (hx : xs ≠ []) (hy : ys ≠ []) (t t1 t2 : Bool) {r : Option IntoStruct}
    (h : parseIntoStruct [.list ⟨xs ++ ys, t⟩] = some r) :
    parseIntoStruct [.list ⟨xs, t1⟩, .list ⟨ys, t2⟩] = some r := by
  have hm : mixing (xs ++ ys) = false := by
    rw [parseIntoStruct_single, pIntoStruct_list] at h
    cases hp : pConvsArgs ⟨xs ++ ys, t⟩ with
    | none => rw [hp] at h; cases h
    | some c => exact (pConvsArgs_some hp).1
  rw [← parseIntoStruct_split hx hy t t1 t2 hm]
  exact h

/-- The converse: two attributes that do not, taken together, mix plain types with `owned`/`ref`/`ref_mut`
mean what the one attribute listing everything means. (`#[into(u8)] #[into(ref)]` is accepted although
`#[into(u8, ref)]` is refused as "mixing": the refusal is about the spelling, the meaning is `owned(u8), ref`.) -/
theorem into_many_attributes_or_one (xs ys : List Item) (hx : xs ≠ []) (hy : ys ≠ []) (t t1 t2 : Bool) {r : Option IntoStruct}
    (h : parseIntoStruct [.list ⟨xs, t1⟩, .list ⟨ys, t2⟩] = some r) (hm : mixing (xs ++ ys) = false) :
    parseIntoStruct [.list ⟨xs ++ ys, t⟩] = some r := by
  rw [parseIntoStruct_split hx hy t t1 t2 hm]
  exact h

/-- **Trailing commas** of `#[into(...)]`: after a non-empty list, and inside `owned(..)` / `ref(..)` / `ref_mut(..)`. -/
theorem into_trailing_comma (items : List Item) (hne : items ≠ []) :
    pIntoStruct (.list ⟨items, true⟩) = pIntoStruct (.list ⟨items, false⟩) ∧
    ∀ (s : Loop) (w : W) (args : List Item), args ≠ [] → loopStep s (.call w args true) = loopStep s (.call w args false) := by
  refine ⟨by rw [pIntoStruct_of_ne hne, pIntoStruct_of_ne hne], ?_⟩
  intro s w args ha
  rw [loopStep_eq, loopStep_eq, contrib_call_trailing w ha]

/-- **Any order of the `#[into(...)]` attributes of the struct**: accepted in one order, accepted in every order,
with the same conversions (the listed types up to their order). -/
theorem into_attribute_order_free {attrs attrs' : List Attr} (h : attrs.Perm attrs') {r : Option IntoStruct}
    (hr : parseIntoStruct attrs = some r) :
    ∃ r', parseIntoStruct attrs' = some r' ∧
      (r' = r ∨ ∃ c c', r = some (.convs c) ∧ r' = some (.convs c') ∧ c.Equiv c') := by
  rw [parseIntoStruct, parseIntoStructFrom_eq] at hr ⊢
  exact mergeFold.perm IntoStruct.oneKind (fun hp => ConvsAttr.foldl_merge_perm hp {}) h hr

/-- **Duplicated / contradicting struct attributes**: `#[into]` cannot be repeated nor combined with
`#[into(...)]`; with two or more attributes every one of them is a conversion list. -/
theorem into_struct_two_attributes (a b : Attr) (rest : List Attr) {r : Option IntoStruct}
    (hr : parseIntoStruct (a :: b :: rest) = some r) :
    ∀ x ∈ a :: b :: rest, ∃ c, pIntoStruct x = some (.convs c) := by
  rw [parseIntoStruct, parseIntoStructFrom_eq] at hr
  exact mergeFold.many_some IntoStruct.oneKind hr

/-- **Unknown, malformed, mixed or legacy arguments of `#[into(...)]` are rejected**: in an accepted list every
argument is a type, or `owned` / `ref` / `ref_mut` alone or with a parenthesised list of types; plain types and
wrapped ones are not mixed; and nothing `check_legacy_syntax` recognises is accepted (what it refuses the
parser proper refuses as well, so the check chooses the diagnostic only). -/
theorem into_accepted_arguments (a : Args) {c : ConvsAttr} (h : pConvs (.list a) = some c) :
    (∀ x ∈ a.items, isType x = true ∨ ∃ w, isWrapWord w = true ∧ (x = .word w ∨ ∃ args tr, x = .call w args tr ∧ allTypes args = true))
    ∧ mixing a.items = false ∧ isLegacy a = false := by
  have hleg : isLegacy a = false := by
    cases hl : isLegacy a
    · rfl
    · rw [pConvs, if_pos hl] at h; cases h
  rw [pConvs_eq] at h
  obtain ⟨hm, hall⟩ := pConvsArgs_some h
  exact ⟨fun x hx => contrib_isSome_cases (hall x hx), hm, hleg⟩

/-- **A field may be skipped once**: a second `#[into(skip)]` / `#[into(ignore)]` on the same field is refused;
`skip` and `ignore` are the same. -/
theorem into_field_skip (a b : Attr) (ha : (pSkip a).isSome) (hb : (pSkip b).isSome) :
    parseIntoField [a, b] = none ∧
    pIntoField (.list ⟨[.word .skip], false⟩) = pIntoField (.list ⟨[.word .ignore], false⟩) := by
  have skip : ∀ a, (pSkip a).isSome → pIntoField a = some { skip := true } := by
    intro a h
    unfold pIntoField
    cases hs : pSkip a with
    | none => rw [hs] at h; cases h
    | some _ => rfl
  -- both read as `skip`, and `IntoField.merge` refuses two of them
  refine ⟨?_, rfl⟩
  simp only [parseIntoField, parseIntoFieldFrom, skip a ha, skip b hb]
  rfl

/-! Non-vacuity: the hypotheses above are met by ordinary attributes, and the rejections are not vacuous. -/
section
private def u8 : Item := .word (.other 0)
private def vec : Item := .pathTy 1
private def str : Item := .otherTy 2
-- `#[from(u8, Vec<u8>)] #[from(&str,)]` are type lists; together they mean `#[from(u8, Vec<u8>, &str)]`
example : ∀ a ∈ [(⟨[u8, vec], false⟩ : Args), ⟨[str], true⟩], pConversion true (.list a) = some (.types a.items) := by
  intro a ha; simp at ha; rcases ha with rfl | rfl <;> rfl
example : parseAttrs (pConversion true) [.list ⟨[u8, vec], false⟩, .list ⟨[str], true⟩] = some (some (.types [u8, vec, str])) := rfl
example : parseAttrs (pConversion true) [.list ⟨[u8, vec, str], false⟩] = some (some (.types [u8, vec, str])) := rfl
example : parseAttrs (pFieldConversion false) [.list ⟨[str], false⟩, .list ⟨[u8], false⟩] = some (some (.types [str, u8])) := rfl
-- duplicates, contradictions, unknown / legacy arguments
example : parseAttrs (pFieldConversion true) [.bare, .bare] = none := rfl
example : parseAttrs (pFieldConversion true) [.list ⟨[.word .skip], false⟩, .list ⟨[.word .forward], false⟩] = none := rfl
example : parseAttrs (pConversion true) [.list ⟨[.word .forward], false⟩, .list ⟨[u8], false⟩] = none := rfl
example : pConversion true (.list ⟨[u8, .intLit], false⟩) = none := rfl
example : pConversion true (.list ⟨[.call (.other 7) [u8] false], false⟩) = none := rfl
example : pFieldConversion true (.list ⟨[.call .types [u8] false], false⟩) = none := rfl
example : tryFromItem [.list ⟨[.word .repr], false⟩] = some true := rfl
example : tryFromItem [.list ⟨[.word .repr], false⟩, .list ⟨[.word .repr], false⟩] = none := rfl
-- Into: `#[into(owned(u8), ref)]`, its two-attribute spelling, mixing, legacy
example : (parseIntoStruct [.list ⟨[.call .owned [u8] false, .word .ref], false⟩]).isSome = true := rfl
example : parseIntoStruct [.list ⟨[.call .owned [u8] false, .word .ref], false⟩]
    = parseIntoStruct [.list ⟨[.call .owned [u8] true], true⟩, .list ⟨[.word .ref], false⟩] := rfl
example : pConvs (.list ⟨[u8, .word .ref], false⟩) = none := rfl
example : mixing [u8, .word .ref] = true := rfl
example : (parseIntoStruct [.list ⟨[u8], false⟩, .list ⟨[.word .ref], false⟩]).isSome = true := rfl
example : isLegacy ⟨[.call .owned [.call .types [u8, .strLit] false] false], false⟩ = true := rfl
example : parseIntoStruct [.bare, .bare] = none := rfl
example : parseIntoStruct [.bare, .list ⟨[.word .ref], false⟩] = none := rfl
example : (parseIntoField [.list ⟨[.word .skip], false⟩, .list ⟨[.word .ref], false⟩]).isSome = true := rfl
end

end Dm.Props.C17
