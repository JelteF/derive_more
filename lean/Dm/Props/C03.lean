import Dm.Lemmas.FmtRoundTrip
import Dm.Lemmas.FmtInvert

/-
C03 — format literals are interpreted exactly as std::fmt interprets them.
The property theorems, and that their hypotheses can be met: ASCII character classes (`asciiCC`) with `asciiSane` /
`asciiSane2`, and two worked derivations.
-/
namespace Dm.Props.C03
open Dm.Fmt

/-- Text without braces yields no placeholders. -/
theorem text_yields_no_placeholders (cc : CharClasses) (s : List Char)
    (h : ∀ c ∈ s, isBrace c = false) : parseFmtString cc s = [] := by
  cases s with
  | nil => rfl
  | cons a t =>
    -- the literal is the print of the one-piece derivation `[.text (a :: t)]`
    exact parseFmtString_eq_meaning (ps := [.text (a :: t)]) (formatString_of_text_some
      (text_eq_some_iff.mpr ⟨(List.append_nil _).symm, List.cons_ne_nil _ _, h, Hd.nil⟩) (formatLoop_nil cc _))

/-- The implicit positional counter follows std's rule on every derivation: explicit indices and
names do not advance it and `.*` advances it once more (before the value's own position). -/
theorem implicit_counter_is_std (n : Nat) (ps : List Piece) :
    placeholdersFrom n (formatsOf ps) = meaningFrom n ps :=
  placeholdersFrom_formatsOf n ps

/-- **Round trip, spec-less fragment** (the special case that needs neither `Sane2` nor `SpecCanonical`; the
full statement is `formats_agree` below): for every canonical
derivation of the std grammar whose placeholders are `{}`, `{N}`, `{name}` (with optional trailing
whitespace), of any length, derive_more's parser accepts the printed literal and reads exactly the
derivation's formats. -/
theorem formats_agree_nospec_partial (cc : CharClasses) (hs : Sane cc) (ps : List Piece) (hcan : Canonical ps)
    (hwf : ∀ p ∈ ps, p.WF cc ∧ NoSpec p) :
    formatString cc (renderAll ps) = some (formatsOf ps) :=
  formatString_render hcan (SpecCanonical.of_noSpec fun p hp => (hwf p hp).2) (fun _ h => (hwf _ h).1)
    (fun _ h _ hal => maybeFormat_render hs (hwf _ h).1 (fun hne => absurd (hwf _ h).2 hne) hal)

/-- **Round trip** (the whole grammar): for every canonical derivation of the std grammar — text, `{{`, `}}` and
placeholders `{[argument][:[[fill]align][sign]['#']['0'][width]['.' precision][type]][ws]}` of any length — derive_more's
parser accepts the printed literal and reads exactly the derivation's formats. "Canonical" is std's resolution of the
grammar's three ambiguities: adjacent texts are one text (`Canonical`), a leading `0` of a width is the zero flag unless
`$` follows (`SpecA.ZeroCanonical`, part of `WF`), and an empty spec `{:}` directly followed by an alignment character
reads the `}` as a fill (`SpecCanonical`). -/
theorem formats_agree (cc : CharClasses) (hs : Sane cc) (h2 : Sane2 cc) (ps : List Piece) (hcan : Canonical ps)
    (hwf : ∀ p ∈ ps, p.WF cc) (hsc : SpecCanonical ps) :
    formatString cc (renderAll ps) = some (formatsOf ps) :=
  formatString_render hcan hsc (fun _ h => hwf _ h)
    (fun _ h _ hal => maybeFormat_render hs (hwf _ h) (fun _ => h2) hal)

/-- … and therefore the placeholders derive_more sees (argument, trait, modifiers) are std's reading of the derivation,
for the whole grammar. -/
theorem placeholders_agree (cc : CharClasses) (hs : Sane cc) (h2 : Sane2 cc) (ps : List Piece) (hcan : Canonical ps)
    (hwf : ∀ p ∈ ps, p.WF cc) (hsc : SpecCanonical ps) :
    parseFmtString cc (renderAll ps) = meaning ps :=
  parseFmtString_eq_meaning (formats_agree cc hs h2 ps hcan hwf hsc)

/-- … and therefore the placeholders derive_more sees (argument, trait, modifiers) are std's reading
of the derivation. -/
theorem placeholders_agree_nospec_partial (cc : CharClasses) (hs : Sane cc) (ps : List Piece) (hcan : Canonical ps)
    (hwf : ∀ p ∈ ps, p.WF cc ∧ NoSpec p) :
    parseFmtString cc (renderAll ps) = meaning ps :=
  parseFmtString_eq_meaning (formats_agree_nospec_partial cc hs ps hcan hwf)

/-- **The converse: the parser accepts nothing outside the grammar.** Every literal derive_more's parser accepts is the
print of a derivation of the std grammar (lexically well-formed: identifiers, indices that fit `usize`, a fill only
with an alignment, whitespace only before `}`), and the placeholders it reports are std's reading of that
derivation. No hypothesis on the character tables is needed. -/
theorem accepted_literals_are_derivations (cc : CharClasses) (s : List Char) (fs : List Format)
    (h : formatString cc s = some fs) :
    ∃ ps : List Piece, s = renderAll ps ∧ (∀ p ∈ ps, p.Lex cc) ∧ formatsOf ps = fs ∧ parseFmtString cc s = meaning ps := by
  obtain ⟨ps, e, hf, hlx⟩ := formatString_inv h
  exact ⟨ps, e, hlx, hf, parseFmtString_eq_meaning (hf ▸ h)⟩

/-! Non-vacuity: the hypotheses are satisfiable — ASCII character classes are `Sane`, and a concrete
derivation `a{x }{{{1}` meets the premises. -/
def asciiCC : CharClasses := { isStart := fun c => c.isAlpha, isCont := fun c => c.isAlphanum || c == '_', isWs := fun c => c == ' ' }

theorem asciiSane : Sane asciiCC := by
  refine ⟨?_, ?_, ?_, ?_, ?_⟩
  · intro c hc
    simp only [isDigit, Char.isDigit, Bool.and_eq_true, decide_eq_true_eq] at hc
    refine ⟨?_, ?_, ?_⟩
    · simp only [asciiCC, Char.isAlpha, Char.isUpper, Char.isLower, Bool.or_eq_false_iff, Bool.and_eq_false_iff, decide_eq_false_iff_not]
      -- a digit is at most `'9'`, which is below `'A'` and `'a'`
      have h2 := hc.2
      constructor
      · rintro ⟨h, _⟩; have := UInt32.le_trans h h2; revert this; decide
      · left; intro h; have := UInt32.le_trans h h2; revert this; decide
    · intro e; subst e; revert hc; decide
    · simp only [asciiCC, beq_eq_false_iff_ne]; intro e; subst e; revert hc; decide
  · intro c hc
    have : c = ' ' := by simpa [asciiCC] using hc
    subst this
    decide
  · decide
  · decide
  · intro c hc
    constructor <;> (intro e; subst e; revert hc; decide)

def exPieces : List Piece :=
  [.text ['a'], .ph ⟨some (.name ['x']), none, [' ']⟩, .lbrace, .ph ⟨some (.idx ['1']), none, []⟩]

example : formatString asciiCC (renderAll exPieces) = some (formatsOf exPieces) := by
  apply formats_agree_nospec_partial asciiCC asciiSane
  · trivial
  · intro p hp
    simp only [exPieces, List.mem_cons, List.mem_nil_iff, or_false] at hp
    rcases hp with rfl | rfl | rfl | rfl
    · exact ⟨⟨by decide, by decide⟩, trivial⟩
    · refine ⟨⟨?_, ?_, ?_⟩, rfl⟩
      · intro a ha; cases ha; exact Or.inl ⟨by decide, by decide⟩
      · intro s hs; cases hs
      · decide
    · exact ⟨trivial, trivial⟩
    · refine ⟨⟨?_, ?_, ?_⟩, rfl⟩
      · intro a ha; cases ha; exact ⟨by decide, by decide, by decide⟩
      · intro s hs; cases hs
      · decide

theorem asciiSane2 : Sane2 asciiCC := ⟨by decide, by decide⟩

/-- `v={x:*>+#08.p$x}{:.*X? }{:}a{0:<}` as a derivation. -/
def exSpec1 : SpecA :=
  { fill := some '*', align := some .right, sign := some .plus, alt := true, zero := true, width := some (.lit ['8']),
    prec := some (.count (.param (.name ['p']))), ty := .lowerHex }
def exSpec2 : SpecA :=
  { fill := none, align := none, sign := none, alt := false, zero := false, width := none, prec := some .star, ty := .upperDebug }
def exSpec3 : SpecA :=
  { fill := none, align := none, sign := none, alt := false, zero := false, width := none, prec := none, ty := .display }
def exSpec4 : SpecA :=
  { fill := none, align := some .left, sign := none, alt := false, zero := false, width := none, prec := none, ty := .display }
def exPieces2 : List Piece :=
  [.text ['v', '='], .ph ⟨some (.name ['x']), some exSpec1, []⟩, .ph ⟨none, some exSpec2, [' ']⟩, .ph ⟨none, some exSpec3, []⟩,
   .text ['a'], .ph ⟨some (.idx ['0']), some exSpec4, []⟩]

example : String.ofList (renderAll exPieces2) = "v={x:*>+#08.p$x}{:.*X? }{:}a{0:<}" := rfl

example : formatString asciiCC (renderAll exPieces2) = some (formatsOf exPieces2) := by
  apply formats_agree asciiCC asciiSane asciiSane2
  · trivial
  · intro p hp
    simp only [exPieces2, List.mem_cons, List.mem_nil_iff, or_false] at hp
    rcases hp with rfl | rfl | rfl | rfl | rfl | rfl
    · exact ⟨by decide, by decide⟩
    · refine ⟨?_, ?_, ?_⟩
      · intro a ha; cases ha; exact Or.inl ⟨by decide, by decide⟩
      · intro s hs; cases hs
        refine ⟨(by intro _; rfl), ?_, ?_, ?_⟩
        · intro w hw; cases hw; exact ⟨by decide, by decide, by decide⟩
        · intro q hq; cases hq; exact Or.inl ⟨by decide, by decide⟩
        · intro h; cases h
      · decide
    · refine ⟨?_, ?_, ?_⟩
      · intro a ha; cases ha
      · intro s hs; cases hs
        refine ⟨(by intro h; cases h), ?_, ?_, ?_⟩
        · intro w hw; cases hw
        · intro q hq; cases hq; trivial
        · intro _; trivial
      · decide
    · refine ⟨?_, ?_, ?_⟩
      · intro a ha; cases ha
      · intro s hs; cases hs
        refine ⟨(by intro h; cases h), ?_, ?_, ?_⟩
        · intro w hw; cases hw
        · intro q hq; cases hq
        · intro _; trivial
      · decide
    · exact ⟨by decide, by decide⟩
    · refine ⟨?_, ?_, ?_⟩
      · intro a ha; cases ha; exact ⟨by decide, by decide, by decide⟩
      · intro s hs; cases hs
        refine ⟨(by intro h; cases h), ?_, ?_, ?_⟩
        · intro w hw; cases hw
        · intro q hq; cases hq
        · intro _; trivial
      · decide
  · -- one `AlignOk` per placeholder: an alignment, whitespace, the follower `a`, an alignment
    refine ⟨?_, ?_, ?_, ?_, trivial⟩
    · intro s hs ha; cases hs; cases ha
    · intro s hs _ _ hw; cases hw
    · intro s hs _ _ _ c t e
      cases e; decide
    · intro s hs ha; cases hs; cases ha

/-- The excluded derivation really is ambiguous: `{:}<}`-style text reads as fill `}` — the parser (and std) take
the `}` before `<` as a fill character. -/
example : (formatString asciiCC "{:}<}".toList).map (fun fs => fs.map (fun f => f.spec.map (·.align)))
    = some [some (some (some '}', .left))] := by decide +kernel

end Dm.Props.C03
