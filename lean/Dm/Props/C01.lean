import Dm.Lemmas.Generics
import Dm.Lemmas.List

/-
C01 (scoping core) — the type's own generic arguments are applied to the type itself and to nothing
else, every one of them is declared by the generated impl, lifetimes come first, nothing declared is
lost, added bounds stay in scope. For every generics list and every helper of `utils.rs`.
"The generated items compile" and "no warnings" are decided by rustc on the generated shape space (the check).
-/
namespace Dm.Props.C01
open Dm.Gnr

/-- **Lifetimes first**: whatever the declaration order and whatever was pushed, the printed impl
parameters never have a lifetime after a type or const parameter. -/
theorem lifetimes_first_impl (g : Generics) : lifetimesFirst (implParams g) = true := by
  -- dropping the default does not change what kind of parameter it is
  have key : ∀ (P : Param → Bool) (v : Bool), (∀ q, P q = true → isLifetime q = v) →
      ∀ p ∈ (g.params.filter P).map (fun p => { p with hasDefault := false }), isLifetime p = v := by
    intro P v hP p hp
    obtain ⟨q, hq, rfl⟩ := List.mem_map.1 hp
    exact hP q (List.mem_filter.1 hq).2
  rw [implParams, List.map_append]
  exact lifetimesFirst_append (key _ true fun _ h => h)
    (key _ false fun q h => (Bool.not_eq_true' (isLifetime q)).mp h)

/-- No parameter of a generated `impl` header carries a default (rustc rejects `impl<T = i32>`, and
`impl<const N: usize = 16>` is a hard error): whatever the declaration said, and after every helper
that extends the generics. -/
theorem impl_params_have_no_defaults (g : Generics) : ∀ p ∈ implParams g, p.hasDefault = false := by
  intro p hp
  simp only [implParams, List.mem_map] at hp
  obtain ⟨q, _, rfl⟩ := hp
  rfl

/-- **Exactly the declared parameters**: the arguments applied to the type are a permutation of the
declared parameters (each one once, none else). -/
theorem self_args_exact (g : Generics) :
    (tyArgs g).Perm (g.params.map fun p => (p.kind, p.name)) :=
  tyArgs_perm g

/-- `add_extra_generic_type_param` loses and duplicates nothing: the result is a permutation of the
declared parameters plus the new one. -/
theorem extra_type_param_perm (g : Generics) (x : Param) :
    (addExtraGenericTypeParam g x).params.Perm (g.params ++ [x]) := by
  have h3 := ListFacts.filter3_perm (·.kind == .lifetime) (·.kind == .type) (·.kind == .const) g.params
    (fun a => by cases a.kind <;> rfl) (fun a => by cases a.kind <;> rfl)
  -- `x` stands between the type and the const parameters: move it past the latter
  refine List.Perm.trans ?_ (h3.append_right [x])
  simp only [addExtraGenericTypeParam, List.append_assoc]
  exact List.Perm.append_left _ (List.Perm.append_left _ List.perm_append_comm)

/-- **Every helper keeps the header well-scoped.** -/
theorem args_declared_plain (g : Generics) : (header g g).argsDeclared = true :=
  (header_argsDeclared_iff g g).2 (List.Subset.refl _)

theorem args_declared_bound (g : Generics) (b : List Nat) : (header g (addExtraTyParamBound g b)).argsDeclared = true := by
  have h : (addExtraTyParamBound g b).params.map (fun p => (p.kind, p.name)) = g.params.map fun p => (p.kind, p.name) := by
    rw [addExtraTyParamBound, List.map_map]
    exact List.map_congr_left fun p _ => by dsimp only [Function.comp]; cases p.kind == PKind.type <;> rfl
  exact (header_argsDeclared_iff g _).2 (h ▸ List.Subset.refl _)

theorem args_declared_extra_param (g : Generics) (x : Param) : (header g (addExtraGenericParam g x)).argsDeclared = true := by
  rw [header_argsDeclared_iff, addExtraGenericParam, List.map_append]
  exact List.subset_append_left _ _

theorem args_declared_extra_type_param (g : Generics) (x : Param) :
    (header g (addExtraGenericTypeParam g x)).argsDeclared = true := by
  rw [header_argsDeclared_iff]
  refine List.Subset.trans ?_ ((extra_type_param_perm g x).map _).symm.subset
  rw [List.map_append]
  exact List.subset_append_left _ _

theorem args_declared_where (g : Generics) (new : List (List Nat)) : (header g (addExtraWhereClauses g new)).argsDeclared = true :=
  (header_argsDeclared_iff g _).2 (List.Subset.refl _)

/-- a fresh name stays unique -/
theorem fresh_param_unique (g : Generics) (x : Param) (hn : (names g).Nodup) (hf : x.name ∉ names g) :
    (names (addExtraGenericParam g x)).Nodup ∧ (names (addExtraGenericTypeParam g x)).Nodup := by
  have h1 : (names (addExtraGenericParam g x)).Nodup := by
    rw [names, addExtraGenericParam, List.map_append]
    exact (List.perm_append_singleton _ _).nodup_iff.2 (List.nodup_cons.2 ⟨hf, hn⟩)
  refine ⟨h1, ?_⟩
  have hp : (names (addExtraGenericTypeParam g x)).Perm (names (addExtraGenericParam g x)) :=
    (extra_type_param_perm g x).map _
  exact hp.nodup_iff.mpr h1

/-- the declared where-predicates are all kept, and only the given ones are added -/
theorem where_predicates_kept (g : Generics) (new : List (List Nat)) :
    (∀ q ∈ g.preds, q ∈ (addExtraWhereClauses g new).preds) ∧
    (∀ q ∈ (addExtraWhereClauses g new).preds, q ∈ new ∨ q ∈ g.preds) :=
  ⟨fun _ hq => List.mem_append_right _ hq, fun _ hq => List.mem_append.1 hq⟩

/-- an added bound that only mentions names in scope keeps every bound in scope -/
theorem added_bounds_in_scope (g : Generics) (b : List Nat) (scope : List Nat)
    (hold : ∀ p ∈ g.params, ∀ bd ∈ p.bounds, ∀ n ∈ bd, n ∈ scope) (hb : ∀ n ∈ b, n ∈ scope) :
    ∀ p ∈ (addExtraTyParamBound g b).params, ∀ bd ∈ p.bounds, ∀ n ∈ bd, n ∈ scope := by
  intro p hp bd hbd n hn
  obtain ⟨q, hq, rfl⟩ := List.mem_map.1 hp
  by_cases hk : (q.kind == PKind.type) = true
  · rw [if_pos hk] at hbd
    rcases List.mem_append.1 hbd with h | h
    · exact hold q hq bd h n hn
    · exact hb n (List.mem_singleton.1 h ▸ hn)
  · rw [if_neg hk] at hbd
    exact hold q hq bd hbd n hn

/-! Non-vacuity: `struct S<const N: usize, 'a?>`-like orders really are reordered. -/
def ex : Generics := ⟨[⟨.const, 1, [], false⟩, ⟨.type, 2, [], true⟩, ⟨.lifetime, 3, [], false⟩], []⟩
example : (implParams ex).map (·.name) = [3, 1, 2] := rfl
example : (implParams (addExtraGenericParam ex ⟨.lifetime, 9, [], false⟩)).map (·.name) = [3, 9, 1, 2] := rfl
example : (addExtraGenericTypeParam ex ⟨.type, 9, [], false⟩).params.map (·.name) = [3, 2, 9, 1] := rfl
example : lifetimesFirst ex.params = false := rfl

end Dm.Props.C01
