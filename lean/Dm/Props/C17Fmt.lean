import Dm.Lemmas.FmtContainer

/-
C17 — the container attributes of the formatting derives (`#[display("…", args)]`, `#[display(bound(…))]` /
`bounds(…)`, `#[display(rename_all = "…")]`, and the same for Debug and the other formatting traits), for every
attribute list at every position `g` (Display-like item or variant, Debug struct, Debug enum, Debug variant);
`respell` swaps the two spellings of the bounds keyword; last, the attributes of a field under Debug.
-/
namespace Dm.Props.C17
open Dm.FmtContainer

/-- `bound` ↔ `bounds`. -/
def respell : A → A
  | .bounds .bound ps => .bounds .bounds ps
  | .bounds .bounds ps => .bounds .bound ps
  | a => a

/-- **`bound(…)` ≡ `bounds(…)`**, in any attribute of any list. -/
theorem bound_bounds_synonyms (g : G) (attrs : List A) (which : A → Bool) :
    parseAll g (attrs.map fun a => if which a then respell a else a) = parseAll g attrs := by
  refine parseAll_map (fun a => ?_) attrs
  cases which a
  · rfl
  · cases a with
    | bounds k ps => cases k <;> rfl
    | _ => rfl

/-- **One `bound(…)` listing several predicates ≡ several listing some each**, wherever it stands. -/
theorem bounds_one_attribute_or_many (g : G) (pre post : List A) (k k1 k2 : BoundKw) (p q : List Nat) :
    parseAll g (pre ++ .bounds k (p ++ q) :: post) = parseAll g (pre ++ .bounds k1 p :: .bounds k2 q :: post) := by
  apply parseAll_congr
  · simp only [List.forall_mem_append, List.forall_mem_cons, parseOne_bounds_isSome, and_self_left]
  · simp only [fmts_append, fmts_cons]; rfl
  · simp only [preds_append, preds_cons, predsOf, List.append_assoc]
  · simp only [renames_append, renames_cons]; rfl

/-- **Any order of the attributes**: a permutation of an accepted list is accepted, with the same format, the same
casing and the same predicates up to their order. -/
theorem fmt_attribute_order_free (g : G) {attrs attrs' : List A} (h : attrs.Perm attrs') {r : Parsed}
    (hr : parseAll g attrs = some r) :
    ∃ r', parseAll g attrs' = some r' ∧ r'.fmt = r.fmt ∧ r'.renameAll = r.renameAll ∧ r.bounds.Perm r'.bounds := by
  refine ⟨_, parseAll_perm h hr, rfl, rfl, ?_⟩
  obtain ⟨_, _, _, _, rfl⟩ := (parseAll_some_iff ..).mp hr
  exact preds_perm h

/-- **A second format literal or a second `rename_all` on one item is rejected.** -/
theorem second_format_or_rename_rejected (g : G) (attrs : List A)
    (h : 2 ≤ (fmts attrs).length ∨ 2 ≤ (renames attrs).length) : parseAll g attrs = none := by
  rw [parseAll_none_iff]
  intro hc
  rcases h with h | h
  · exact absurd (Nat.le_trans h hc.2.1) (by decide)
  · exact absurd (Nat.le_trans h hc.2.2.1) (by decide)

/-- **An attribute that cannot be read at this position makes the derive fail wherever it stands**: an unknown
argument, the pre-1.0 `fmt = "…"` / `bound = "…"`, an unknown casing, `rename_all` outside the Display-like
derives, bounds on a variant of a Debug enum. -/
theorem unreadable_attribute_rejected (g : G) (attrs : List A) (a : A) (ha : a ∈ attrs) (hn : parseOne g a = none) :
    parseAll g attrs = none := by
  rw [parseAll_none_iff]
  intro hc
  have := hc.1 a ha
  rw [hn] at this; cases this

theorem unreadable_examples (g : G) :
    parseOne g .unknown = none ∧ parseOne g .legacyFmt = none ∧ parseOne g .legacyBound = none ∧
    parseOne g (.renameAll none) = none ∧
    (∀ c, g ≠ .display → parseOne g (.renameAll (some c)) = none) ∧
    (∀ k ps, parseOne .fmtOnly (.bounds k ps) = none) := by
  exact ⟨rfl, rfl, rfl, rfl, fun _ hg => if_neg hg, fun _ _ => rfl⟩

/-- **Debug on an enum**: the variant takes at most one attribute, a format; the enum itself takes bounds only. -/
theorem debug_enum_positions (attrs : List A) {p : Parsed} :
    (parseAll .fmtOnly attrs = some p → attrs = [] ∨ ∃ l as, attrs = [.fmt l as]) ∧
    (parseAll .debugEnum attrs = some p → ∀ a ∈ attrs, ∃ k ps, a = .bounds k ps) := by
  constructor
  · intro h
    obtain ⟨a1, a2, _, _, _⟩ := (parseAll_some_iff _ _ _).mp h
    have hall : ∀ a ∈ attrs, ∃ l as, a = .fmt l as := by
      intro a ha
      rcases parseOne_isSome_cases (a1 a ha) with h | ⟨k, ps, rfl⟩ | ⟨c, rfl⟩
      · exact h
      · cases a1 _ ha
      · cases a1 _ ha
    cases attrs with
    | nil => exact .inl rfl
    | cons a t =>
      obtain ⟨l, as, rfl⟩ := hall a List.mem_cons_self
      cases t with
      | nil => exact .inr ⟨l, as, rfl⟩
      | cons b t =>
        obtain ⟨l', as', rfl⟩ := hall b (List.mem_cons_of_mem _ List.mem_cons_self)
        -- two format literals already
        exact absurd (Nat.le_trans (Nat.le_add_left 2 (fmts t).length) a2) (by decide)
  · intro h a ha
    obtain ⟨a1, _, _, a4, _⟩ := (parseAll_some_iff _ _ _).mp h
    rcases parseOne_isSome_cases (a1 a ha) with ⟨l, as, rfl⟩ | h | ⟨c, rfl⟩
    · have := fmt_mem_fmts ha
      rw [a4 rfl] at this; cases this
    · exact h
    · cases a1 _ ha

/-- **Field attributes of Debug**: an unreadable attribute, a second attribute on the same field (repeated `skip`,
`skip` with `ignore`, two formats, a format with `skip`), or a field format under a struct / variant format make
the derive fail, for a struct and for every variant alike; `skip` ≡ `ignore`. -/
theorem debug_field_attributes (cf : Bool) (fields : List (List FA)) (l : List FA) (hl : l ∈ fields) :
    (FA.unreadable ∈ l → debugFieldsOk cf fields = false) ∧
    (2 ≤ l.length → debugFieldsOk cf fields = false) ∧
    (cf = true → FA.fmt ∈ l → debugFieldsOk cf fields = false) ∧
    (∀ b, parseFA (.skip b) = some .skip) := by
  have key : ¬ (l.length ≤ 1 ∧ FA.unreadable ∉ l ∧ (cf = true → FA.fmt ∉ l)) → debugFieldsOk cf fields = false :=
    fun hn => Bool.eq_false_iff.mpr fun h => hn ((debugFieldsOk_iff cf fields).mp h l hl)
  exact ⟨fun hm => key fun h => h.2.1 hm, fun h2 => key fun h => absurd (Nat.le_trans h2 h.1) (by decide),
    fun hc hm => key fun h => h.2.2 hc hm, fun _ => rfl⟩

example : debugFieldsOk true [[.skip false], [], [.skip true]] = true := by decide
example : debugFieldsOk false [[.fmt], [.skip false]] = true := by decide
example : debugFieldsOk true [[.fmt]] = false := by decide
example : debugFieldsOk false [[.skip false, .skip true]] = false := by decide
example : parseAll .display [.bounds .bound [1, 2], .fmt 0 [7], .renameAll (some .snake), .bounds .bounds [3]]
    = some { fmt := some (0, [7]), bounds := [1, 2, 3], renameAll := some .snake } := by decide
example : parseAll .display [.fmt 0 [], .fmt 1 []] = none := by decide
example : parseAll .display [.renameAll (some .snake), .renameAll (some .kebab)] = none := by decide
example : parseAll .common [.renameAll (some .snake)] = none := by decide
example : parseAll .display [.bounds .bound [1], .unknown] = none := by decide
example : parseAll .fmtOnly [.fmt 0 []] = some { fmt := some (0, []) } := by decide
example : parseAll .debugEnum [.bounds .bound [1]] = some { bounds := [1] } := by decide
example : parseAll .debugEnum [.fmt 0 []] = none := by decide

end Dm.Props.C17
