import Dm.Lemmas.Ops
import Dm.Lemmas.List

/-
C10 — derived operators act field-wise with operand order preserved.
-/
namespace Dm.Props.C10
open Dm.Ops

variable {α β : Type}

/-- Binary derives on structs: the i-th field of the result is `lhs.i op rhs.i` - operands in
this order, for any (non-commutative) `op`, any number of fields. -/
theorem add_struct (op : α → α → α) (sop : α → β → α) (u : α → α) (e : Nat → α) (sc : β) (d : α)
    (n : Nat) (l r : List α) (hl : l.length = n) (hr : r.length = n) :
    (fieldwiseBin n).map (eval op sop u e l r sc d) = List.zipWith op l r := by
  subst hl
  rw [fieldwiseBin, List.map_map]
  exact ListFacts.map_range_getD_zipWith op l r d d hr.symm

/-- Scalar `Mul`-like derives: every field is `field_i op rhs`. -/
theorem mul_scalar (op : α → α → α) (sop : α → β → α) (u : α → α) (e : Nat → α) (sc : β) (d : α)
    (n : Nat) (l r : List α) (hl : l.length = n) :
    (fieldwiseScalar n).map (eval op sop u e l r sc d) = l.map fun x => sop x sc := by
  subst hl
  rw [fieldwiseScalar, List.map_map]
  exact ListFacts.map_range_getD_map (fun x => sop x sc) l d

/-- `Not` / `Neg`: every field is mapped. -/
theorem unary_struct (op : α → α → α) (sop : α → β → α) (u : α → α) (e : Nat → α) (sc : β) (d : α)
    (n : Nat) (l r : List α) (hl : l.length = n) :
    (fieldwiseUn n).map (eval op sop u e l r sc d) = l.map u := by
  subst hl
  rw [fieldwiseUn, List.map_map]
  exact ListFacts.map_range_getD_map u l d

/-- `*Assign`: the statements `self.i.m_assign(rhs.i)` leave `a` equal to what `a op b` returns,
whenever the field type's assigning operator agrees with its binary one. -/
theorem assign_matches_binary (op opAssign : α → α → α) (h : ∀ x y, opAssign x y = op x y)
    (l r : List α) : List.zipWith opAssign l r = List.zipWith op l r := by
  congr 1; funext x y; exact h x y

/-- `Sum` / `Product`: folding the iterator with the derived field-wise operator from the
field-wise empty sum gives, in every field, the fold of that field's values. -/
theorem sum_is_fieldwise_fold (op : α → α → α) (d : α) (xs : List (List α)) (ident : List α)
    (n : Nat) (hid : ident.length = n) (hx : ∀ x ∈ xs, x.length = n) (i : Nat) (hi : i < n) :
    (xs.foldl (List.zipWith op) ident).getD i d
      = (xs.map fun x => x.getD i d).foldl op (ident.getD i d) := by
  induction xs generalizing ident with
  | nil => rfl
  | cons x xs ih =>
    have hxl : x.length = n := hx x List.mem_cons_self
    rw [List.foldl_cons, List.map_cons, List.foldl_cons,
      ih (List.zipWith op ident x) (by rw [List.length_zipWith, hid, hxl, Nat.min_self])
        (fun y hy => hx y (List.mem_cons_of_mem _ hy)),
      ListFacts.getD_zipWith op ident x d d d i (hid ▸ hi) (hxl ▸ hi)]

/-- Enums: two values of the same variant with fields give `Ok` of the field-wise result. -/
theorem add_enum_same_variant (op : α → α → α) (d : α) (vs : List VKind) (v n : Nat)
    (hv : vs[v]? = some (.fields n)) (l r : List α) (hl : l.length = n) (hr : r.length = n) :
    evalEnum op d (enumArms vs) (v, l) (v, r) = some (.ok (v, List.zipWith op l r)) := by
  rw [evalEnum_enumArms_same op d vs v l r hv, armResult, add_struct op _ id _ () d n l r hl hr]

/-- Two equal unit variants give the unit error. -/
theorem add_enum_unit_variant (op : α → α → α) (d : α) (vs : List VKind) (v : Nat)
    (hv : vs[v]? = some .unit) :
    evalEnum op d (enumArms vs) (v, ([] : List α)) (v, []) = some (.error .unit) :=
  evalEnum_enumArms_same op d vs v [] [] hv

/-- Operands of different variants give the mismatch error. -/
theorem add_enum_different_variants (op : α → α → α) (d : α) (vs : List VKind) (a b : Nat × List α)
    (hne : a.1 ≠ b.1) (ha : a.1 < vs.length) (hb : b.1 < vs.length) :
    evalEnum op d (enumArms vs) a b = some (.error .mismatch) := by
  -- of two different numbers below `vs.length` the larger is at least 1
  have hlen : 1 < vs.length := by
    rcases Nat.lt_or_gt_of_ne hne with h | h
    · exact Nat.lt_of_le_of_lt (Nat.zero_lt_of_lt h) hb
    · exact Nat.lt_of_le_of_lt (Nat.zero_lt_of_lt h) ha
  rw [enumArms, evalEnum_variantArms_diff op d 0 vs _ a b hne, if_pos hlen]
  rfl

/-- Inside a variant with fields `Not` / `Neg` map every field and keep the variant; the result is
the enum itself when the enum has no unit variant, `Ok(enum)` when it has one. -/
theorem not_enum_maps_fields (u : α → α) (d : α) (vs : List VKind) (v n : Nat)
    (hv : vs[v]? = some (.fields n)) (l : List α) (hl : l.length = n) :
    evalNot u d (notArms vs) (v, l)
      = some (if notHasUnit vs then .ok (v, l.map u) else .plain (v, l.map u)) := by
  have ha : (notArms vs)[v]? = some (.map n (notHasUnit vs)) := by
    rw [notArms, List.getElem?_map, hv]; rfl
  simp only [evalNot, ha]
  rw [unary_struct (fun x _ => x) (fun x (_ : Unit) => x) u (fun _ => d) () d n l l hl]

/-- A unit variant gives the unit error. -/
theorem not_enum_unit_variant (u : α → α) (d : α) (vs : List VKind) (v : Nat)
    (hv : vs[v]? = some .unit) (l : List α) :
    evalNot u d (notArms vs) (v, l) = some .err := by
  have ha : (notArms vs)[v]? = some .unitErr := by rw [notArms, List.getElem?_map, hv]; rfl
  simp only [evalNot, ha]

/-- The output type is `Result` exactly when a *unit* variant exists: field-less tuple / struct
variants (`Empty()`, `Empty {}`) are variants with zero fields and are mapped like the others. -/
theorem not_enum_result_iff_unit_variant (vs : List VKind) :
    notHasUnit vs = true ↔ ∃ v : Nat, vs[v]? = some VKind.unit := by
  simp only [notHasUnit, List.any_eq_true, decide_eq_true_eq, exists_eq_right, List.mem_iff_getElem?]

/-- Non-vacuity: `enum E { Two(a, b), Empty(), Braces {} }` has no unit variant: `!E::Empty()` is
`E::Empty()` itself; with a unit variant added the same value comes back as `Ok(..)`. -/
example : evalNot (fun x : Nat => x + 1) 0 (notArms [.fields 2, .fields 0, .fields 0]) (1, []) = some (.plain (1, [])) := rfl
example : evalNot (fun x : Nat => x + 1) 0 (notArms [.fields 2, .fields 0, .unit]) (0, [5, 6]) = some (.ok (0, [6, 7])) := rfl

end Dm.Props.C10
