import Dm.Lemmas.FmtExpand
import Dm.Lemmas.TyGen

/-
C04 — inferred formatting bounds on generics are sufficient and not excessive.
Theorems about `bounded_types` / `generate_bounds` (model: Dm/Model/FmtAttr.lean, FmtExpand.lean)
and about `contains_generics` (model: Dm/Model/TyGen.lean).
-/
namespace Dm.Props.C04
open Dm.Fmt Dm.FmtX

/-- A placeholder of attribute `a` denotes field `i` of `fk` (by name, by position through a
bare-identifier argument, or through an alias of a bare identifier). -/
def Denotes (a : FmtAttr) (fk : FieldsK) (p : Placeholder) (i : Nat) : Prop :=
  ∃ name, placeholderName a p = some name ∧ fieldIndex fk name = some i

/-- `bounded_types` is exactly: one (field, trait) pair per placeholder that denotes a field, with
the placeholder's own trait, in literal order. -/
theorem boundedTypes_iff (cc : CharClasses) (a : FmtAttr) (fk : FieldsK) (i : Nat) (tr : Trait) :
    (i, tr) ∈ boundedTypes cc a fk ↔
      ∃ p ∈ parseFmtString cc a.lit, Denotes a fk p i ∧ p.trait = tr := by
  unfold boundedTypes Denotes
  simp only [List.mem_filterMap]
  refine exists_congr fun p => and_congr_right fun _ => ?_
  cases placeholderName a p with
  | none => simp
  | some name => cases h : fieldIndex fk name <;> simp [h]

/-- Sufficient (struct / variant with its own attribute, no enum-level attribute): every
placeholder that denotes a field whose type mentions a type parameter yields the bound
`FieldTy: PlaceholderTrait`. -/
theorem own_attr_bounds_sufficient (c : Ctx) (a : FmtAttr) (cont : Container) (ident : Name)
    (fields : FieldsD) (hc : cont.fmt = some a) (p : Placeholder) (i : Nat) (f : FieldD)
    (hp : p ∈ parseFmtString c.cc a.lit) (hd : Denotes a fields.kind p i)
    (hf : fields.list[i]? = some f) (hg : f.generic = true) :
    Bound.field i p.trait ∈
      displayBounds c { shared := none, attrs := cont, ident := ident, fields := fields } :=
  mem_displayBounds_of_own hc <| List.mem_append_left _ <|
    mem_attrBounds.2 ⟨(boundedTypes_iff _ _ _ _ _).2 ⟨p, hp, hd, rfl⟩, f, hf, hg⟩

/-- Not excessive: every inferred (non-user) bound is on a field whose type mentions a type
parameter - fields that are not generic, and hence parameters that occur in no formatted field,
are never bounded. -/
theorem inferred_bounds_only_on_generic_fields (c : Ctx) (e : Expansion) (i : Nat) (tr : Trait)
    (h : Bound.field i tr ∈ displayBounds c e) :
    ∃ f, e.fields.list[i]? = some f ∧ f.generic = true := by
  rcases mem_displayBounds h with ⟨a, ha⟩ | hu | ⟨f, rest, hl, hg, hb⟩
  · exact (mem_attrBounds.1 ha).2
  · simp at hu
  · cases hb
    exact ⟨f, by rw [hl]; rfl, hg⟩

/-- `bound(...)` predicates given next to a struct's or variant's own format always reach the
where-clause — whatever the shape: also for unit variants and the field-less `V()` / `V {}`, whose
format can still use a type parameter statically (`T::NAME`). -/
theorem user_bounds_always_kept (c : Ctx) (e : Expansion) (a : FmtAttr) (h : e.attrs.fmt = some a)
    (b : String) (hb : b ∈ e.attrs.bounds) : Bound.user b ∈ displayBounds c e :=
  mem_displayBounds_of_own h (List.mem_append_right _ (List.mem_map.2 ⟨b, hb, rfl⟩))

/-- Implicit delegation (no attribute, no enum-level attribute): exactly the first field is
bounded, by the derived trait, and only when its type mentions a type parameter. -/
theorem implicit_bounds (c : Ctx) (ident : Name) (fields : FieldsD) :
    displayBounds c { shared := none, attrs := {}, ident := ident, fields := fields } =
      match fields.list with
      | f :: _ => if f.generic then [Bound.field 0 c.tr] else []
      | [] => [] := by
  rw [displayBounds_own (sharedAttrInfo_of_shared_eq_none rfl)]
  cases fields.list <;> rfl

/-- `contains_generics` decides exactly "the type mentions a type parameter": one of the
identifiers standing in type position (a bare-identifier path, or the argument-less first segment
of a longer path such as `T::Item`), anywhere inside references, arrays, tuples, generic
arguments, associated-type bindings, fn pointers, `Fn(..)` sugar, qualified paths and trait
objects, is one of the parameters. -/
theorem containsGenerics_iff_mentions (ps : List Dm.TyGen.Name) (t : Dm.TyGen.Ty) :
    Dm.TyGen.containsGenerics ps t = (Dm.TyGen.tyIdents t).any ps.contains := by
  unfold Dm.TyGen.containsGenerics
  cases ps with
  | nil => simp
  | cons p ps => simpa using Dm.TyGen.ty_spec (p :: ps) t

/-- `contains_generics` is `false` without type parameters, whatever the type. -/
theorem no_params_no_generics (t : Dm.TyGen.Ty) : Dm.TyGen.containsGenerics [] t = false := rfl

/-- Non-vacuity: `#[display("{b:?} {0}", a)] struct S<T>{ a: T, b: Vec<T> }` bounds `a` by
Display and `b` by Debug. -/
example :
    boundedTypes ⟨Char.isAlpha, fun c => c.isAlphanum || c = '_', fun c => c = ' '⟩
      { lit := "{b:?} {0}".toList, emit := "",
        args := [{ alias := none, ident := some "a".toList, toks := "a" }] }
      (.named ["a".toList, "b".toList]) = [(1, .debug), (0, .display)] := by
  -- read the literals as `String.ofList`: evaluating `toList` of one decodes UTF-8 in the kernel
  rw [String.toList_ofList, String.toList_ofList, String.toList_ofList]
  decide +kernel

end Dm.Props.C04
