import Dm.Gen.ReprInts
import Dm.Lemmas.TryFrom
import Dm.Lemmas.List

/-
C12 — `TryFrom<repr>` is the exact inverse of the enum-to-integer cast.
-/
namespace Dm.Props.C12
open Dm.TF

/-- Every generated constant is the variant's discriminant as Rust defines it: explicit, or the
previous one plus one, counting variants with fields too - for every layout. -/
theorem const_is_discriminant (vs : List Variant) : consts vs = discrs vs :=
  constsFrom_eq 0 0 vs none rfl

/-- `try_from(n)` is `Ok(v)` iff `v` is a field-less variant whose discriminant is `n` (the first
such one; Rust rejects enums with duplicate discriminants), otherwise `Err`. -/
theorem try_from_iff (vs : List Variant) (n : Int) (k : Nat) :
    tryFrom vs n = some k ↔
      (∃ v, vs[k]? = some v ∧ v.fieldless = true ∧ (discrs vs)[k]? = some n)
      ∧ ∀ k' < k, ∀ v', vs[k']? = some v' → ¬ (v'.fieldless = true ∧ (discrs vs)[k']? = some n) := by
  rw [tryFrom_eq_findIdx?, const_is_discriminant]
  simp only [ListFacts.findIdx?_eq_some_iff_getElem?, List.getElem?_zip_eq_some, Bool.and_eq_true, decide_eq_true_eq]
  constructor
  · rintro ⟨⟨x, ⟨hv, hd⟩, hf, hn⟩, hmin⟩
    exact ⟨⟨x.1, hv, hf, hn ▸ hd⟩, fun k' hk' v' hv' h' => hmin k' hk' (v', n) ⟨hv', h'.2⟩ ⟨h'.1, rfl⟩⟩
  · rintro ⟨⟨v, hv, hf, hd⟩, hmin⟩
    exact ⟨⟨(v, n), ⟨hv, hd⟩, hf, rfl⟩, fun j hj y hy h' => hmin j hj y.1 hy.1 ⟨h'.1, h'.2 ▸ hy.2⟩⟩

/-- Round trip: what `try_from` accepts casts back to the same integer. -/
theorem cast_roundtrip (vs : List Variant) (n : Int) (k : Nat) (h : tryFrom vs n = some k) :
    (discrs vs)[k]? = some n := by
  obtain ⟨⟨v, _, _, hd⟩, _⟩ := (try_from_iff vs n k).1 h
  exact hd

/-- Values that are no field-less variant's discriminant are rejected. -/
theorem no_variant_is_err (vs : List Variant) (n : Int)
    (h : ∀ (k : Nat) (v : Variant), vs[k]? = some v → v.fieldless = true → (discrs vs)[k]? ≠ some n) :
    tryFrom vs n = none := by
  cases ht : tryFrom vs n with
  | none => rfl
  | some k =>
    obtain ⟨⟨v, hv, hf, hd⟩, _⟩ := (try_from_iff vs n k).1 ht
    exact absurd hd (h k v hv hf)

/-- A discriminant that fits the representation type is computed exactly, however large the
distance from the last explicit discriminant is (it may exceed the type's positive range). -/
theorem constW_exact (r : Range) (last : Int) (inc : Nat) (h : r.fits (last + inc) = true) :
    constW r last inc = last + inc := by
  unfold constW
  rw [wrap_add_wrap, wrap_of_fits h]

/-- **Whenever rustc accepts the enum** (every discriminant is a value of the representation
type), the generated constants, computed in that type, are the discriminants — for every number
of variants and every integer width. -/
theorem consts_in_repr_are_discriminants (r : Range) (vs : List Variant)
    (h : ∀ x ∈ discrs vs, r.fits x = true) : constsW r vs = discrs vs := by
  rw [constsW, constsFromW_eq, ← consts, const_is_discriminant, List.map_congr_left fun x hx => wrap_of_fits (h x hx),
    List.map_id']

/-- The defect of the pinned tree (fixed): `#[repr(i8)] enum E { A0 = -1, A1, .., A128 }` is a
valid enum (`A128 = 127`), but `(-1) + 128` with `128` read as an `i8` literal is `-1 + -128`,
which overflows: the derive did not compile. The wrapping form gives 127. -/
theorem i8_far_variant_witness :
    constChecked i8 (-1) 128 = none ∧ constW i8 (-1) 128 = 127 ∧ i8.fits (-1 + 128) = true := by decide

/-- The integer names the working tree's `attr::ReprInt` recognises (table regenerated from
impl/src/utils.rs on every run) are exactly the twelve integer types of the model, each once, and
its default is the model's (`isize`): a hint the code does not know would be skipped silently. -/
theorem source_repr_ints_are_the_model :
    Dm.Gen.reprIntNames = allIntTys.map IntTy.name ∧ Dm.Gen.reprDefaultName = IntTy.isize.name
    ∧ Dm.Gen.reprIntUnread = 0 ∧ (allIntTys.map IntTy.name).Nodup := by
  decide +kernel

/-- The representation type: a single integer hint among any other hints, else `isize`. -/
theorem repr_single_attr (hs : List Hint) :
    reprOf [hs] = .ok ((attrRepr hs).getD .isize) := by
  unfold reprOf
  rw [List.map_cons, List.map_nil]
  cases attrRepr hs <;> rfl

theorem repr_none : reprOf [] = .ok .isize := rfl

/-- Inside one `#[repr(..)]` the integer hint is found wherever it stands: other hints before it
(`C`, `align(8)`, ..) and after it do not matter (`#[repr(u16, align(8))]`, `#[repr(C, u8)]`). -/
theorem int_hint_found_anywhere (pre post : List Hint) (t : IntTy) (h : ∀ x ∈ post, x = Hint.other) :
    attrRepr (pre ++ Hint.int t :: post) = some t := by
  unfold attrRepr
  rw [List.foldl_append, List.foldl_cons]
  -- past `int t` the accumulator is `some t`, whatever it held, and `other` leaves it alone
  induction post with
  | nil => rfl
  | cons x r ih =>
    rw [h x List.mem_cons_self, List.foldl_cons]
    exact ih fun y hy => h y (List.mem_cons_of_mem _ hy)

/-- Non-vacuity: `enum { A = 1 << 3, B, C(u8), D = 2 | 1, E }` (values 8, 9, 10, 3, 4). -/
example : consts [⟨"A", true, some 8⟩, ⟨"B", true, none⟩, ⟨"C", false, none⟩, ⟨"D", true, some 3⟩,
    ⟨"E", true, none⟩] = [8, 9, 10, 3, 4] := by decide
example : tryFrom [⟨"A", true, some 8⟩, ⟨"B", true, none⟩, ⟨"C", false, none⟩] 10 = none := by decide

end Dm.Props.C12
