import Dm.Lemmas.LegacyAttr

/-
C17 — synonymous attribute spellings are equivalent; contradictory ones rejected (legacy attribute
parser part: the 20 derives configured through `State`). All theorems hold for every allow-list,
every parameter list and every starting `MetaInfo`.
-/
namespace Dm.Props.C17
open Dm.Legacy

/-- **Any order of the parameters** gives the same `MetaInfo` or the same rejection. -/
theorem order_independent (allowed : List Name) (w : Wrapper) {ms ms' : List Meta} (h : ms.Perm ms') (i : Info) :
    parseMetas allowed w ms i = parseMetas allowed w ms' i :=
  parseMetas_perm allowed w h i

/-- A parameter outside the allow-list of the position — unknown, another derive's, or meaningless for
this item kind — is **rejected wherever it stands**, never ignored. -/
theorem unknown_rejected (allowed : List Name) (w : Wrapper) (ms : List Meta) (m : Meta) (n : Name)
    (hm : m ∈ ms) (hn : allowed.contains n = false)
    (hshape : m = .path n ∨ ∃ args, m = .list n args) (i : Info) :
    parseMetas allowed w ms i = .error () :=
  parseMetas_error_of_mem hm (parseMeta_error_of_not_allowed hn hshape w) i

/-- A parameter **given twice** is rejected (`#[deref(forward, forward)]`, `#[unwrap(ref, owned, ref)]`). -/
theorem repeated_rejected (allowed : List Name) (n : Name) (pre mid post : List Meta) (i : Info) :
    parseMetas allowed .none (pre ++ Meta.path n :: mid ++ Meta.path n :: post) i = .error () :=
  parseMetas_clash (fun _ _ => parseMeta_path_clash .none) pre mid post i

/-- A parameter and its **negation** on the same item are rejected, whichever comes first
(`#[error(source, not(source))]`). -/
theorem contradiction_rejected (allowed : List Name) (n : Name) (pre mid post : List Meta) (i : Info) :
    parseMetas allowed .none (pre ++ Meta.path n :: mid ++ Meta.notList [Meta.path n] :: post) i = .error () ∧
    parseMetas allowed .none (pre ++ Meta.notList [Meta.path n] :: mid ++ Meta.path n :: post) i = .error () := by
  constructor <;> refine parseMetas_clash (fun i j h => ?_) pre mid post i
  · rw [parseMeta_not_path]; exact parseMeta_path_clash .not h
  · rw [parseMeta_not_path] at h; exact parseMeta_path_clash .none h

/-- `get_meta_info`: a second attribute of the same name, the name-value form, an attribute at a
position whose allow-list is empty, and the bare word where `ignore` is not allowed are all rejected. -/
theorem attribute_forms_rejected (allowed : List Name) (a b : AttrForm) (more : List AttrForm) :
    getMetaInfo allowed (a :: b :: more) = .error () ∧
    getMetaInfo allowed [.nameValue] = .error () ∧
    getMetaInfo [] [a] = .error () ∧
    (allowed.contains .ignore = false → getMetaInfo allowed [.word] = .error ()) := by
  -- an empty allow-list is refused first; otherwise each form is refused by its own check
  refine ⟨?_, ?_, rfl, fun h => ?_⟩
  · cases allowed <;> rfl
  · cases allowed <;> rfl
  · cases allowed with
    | nil => rfl
    | cons x xs => exact if_neg (ne_true_of_eq_false h)

/-! Non-vacuity: accepted lists exist, order really is free, and the rejections are not vacuous. -/
def allowErr : List Name := [.ignore, .source, .backtrace]
def start : Info := Info.empty.set .enabled true
example : (parseMetas allowErr .none [.path .source, .notList [.path .backtrace]] start).toOption.isSome = true := by decide
example : ((parseMetas allowErr .none [.path .source, .notList [.path .backtrace]] start).toOption.map fun i =>
    (i .source, i .backtrace)) = some (some true, some false) := by decide
example : (parseMetas allowErr .none [.notList [.path .backtrace], .path .source] start).toOption.map (fun i => (i .source, i .backtrace))
    = (parseMetas allowErr .none [.path .source, .notList [.path .backtrace]] start).toOption.map (fun i => (i .source, i .backtrace)) := by decide
example : (parseMetas allowErr .none [.path .source, .path .source] start).toOption.isSome = false := by decide
example : (parseMetas allowErr .none [.path .source, .notList [.path .source]] start).toOption.isSome = false := by decide
example : (parseMetas allowErr .none [.path (.other 3)] start).toOption.isSome = false := by decide

end Dm.Props.C17
