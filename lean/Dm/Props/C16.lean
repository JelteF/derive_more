import Dm.Lemmas.ExprSplit

/-
C16 — format arguments are split where Rust's expression grammar splits them. About the scanner model
(`Dm/Model/ExprSplit.lean`): what is accepted is the input cut at commas, token for token (`*_reemitted_verbatim`,
`SplitOf`); commas inside groups, `::<..>`, `<..>::` and `|..|` do not split (`Chunked`, `*_taken_whole`,
`*_list_split_at_commas`); and three evaluated inputs on which the scanner departs from Rust's grammar.
-/
namespace Dm.Props.C16
open Dm.Split

def StartsWithComma : List Tok → Prop
  | [] => True
  | t :: _ => t.isComma = true

/-- An expression is handed on token for token: what the scanner returns, followed by what it
left, is the input; and it stops only at the end or in front of a comma. -/
theorem expr_reemitted_verbatim (ts r : List Tok) (e : Expr) (h : parseExpr ts = some (e, r)) :
    e.toks ++ r = ts ∧ StartsWithComma r := by
  revert h
  fun_cases parseExpr ts
  · intro h; cases h; exact ⟨rfl, trivial⟩
  · intro h; cases h; exact ⟨rfl, rfl⟩
  · rename_i hs _ _
    rw [hs]
    intro h; cases h
    obtain ⟨_, rfl, h2, h3⟩ := takeUntilComma_prefix hs
    refine ⟨h2, ?_⟩
    rcases h3 with rfl | ⟨_, _, rfl, hc⟩
    · trivial
    · exact hc
  · rename_i hs _ _
    rw [hs]
    intro h; cases h

/-- An argument counts as a plain field reference only if it is a single identifier (directly
followed by a comma or the end). -/
theorem ident_iff_single_identifier (ts r : List Tok) (s : String) :
    parseExpr ts = some (.ident s, r) ↔ ts = .ident s :: r ∧ (r = [] ∨ ∃ j r', r = .punct ',' j :: r') := by
  constructor
  · fun_cases parseExpr ts
    · intro h; cases h; exact ⟨rfl, .inl rfl⟩
    · intro h; cases h; exact ⟨rfl, .inr ⟨_, _, rfl⟩⟩
    · rename_i hs _ _
      rw [hs]
      intro h; cases h
    · rename_i hs _ _
      rw [hs]
      intro h; cases h
  · rintro ⟨rfl, rfl | ⟨j, r', rfl⟩⟩
    · rfl
    · rfl

/- Trap: `argOrig` below elaborates to a term that names this theorem's auxiliary matcher. Keep the `match` written
out here and this theorem before `argOrig`. -/
/-- An argument (with its optional `name =`) is handed on token for token; only the spacing bit
of the alias' `=` is not kept. -/
theorem arg_reemitted_verbatim {ts r : List Tok} {a : Arg} (h : parseArg ts = some (a, r)) :
    (∃ j, (match a.alias with
            | some n => [Tok.ident n, Tok.punct '=' j]
            | none => []) ++ a.expr.toks ++ r = ts) ∧ StartsWithComma r := by
  revert h
  fun_cases parseArg ts <;> intro h <;> cases h
  · rename_i hal _ he
    obtain ⟨h1, h2⟩ := expr_reemitted_verbatim _ _ _ he
    obtain ⟨j, rfl⟩ := startsWithAlias_eq_some hal
    exact ⟨⟨j, congrArg (_ :: _ :: ·) h1⟩, h2⟩
  · rename_i he
    exact ⟨⟨false, (expr_reemitted_verbatim _ _ _ he).1⟩, (expr_reemitted_verbatim _ _ _ he).2⟩

/-- The tokens an argument was read from: its alias with the `=` as it was spelled, then the
expression. -/
def argOrig (a : Arg) (j : Bool) : List Tok :=
  (match a.alias with
   | some n => [Tok.ident n, Tok.punct '=' j]
   | none => []) ++ a.expr.toks

/-- `SplitOf as ts`: the token list `ts` is the arguments `as`, each token for token, in order,
with exactly one comma between neighbours and at most one after the last. -/
inductive SplitOf : List Arg → List Tok → Prop where
  | nil : SplitOf [] []
  | one (a : Arg) (j : Bool) : SplitOf [a] (argOrig a j)
  | cons (a : Arg) (j : Bool) (c : Tok) (as : List Arg) (rest : List Tok) :
      c.isComma = true → SplitOf as rest → SplitOf (a :: as) (argOrig a j ++ c :: rest)

theorem parseArgsLoop_splitOf {fuel : Nat} {ts : List Tok} {as : List Arg}
    (h : parseArgsLoop fuel ts = some as) : SplitOf as ts := by
  revert h
  fun_induction parseArgsLoop fuel ts generalizing as <;> intro h <;> cases h
  · exact .nil
  · rename_i a ha
    obtain ⟨⟨j, rfl⟩, -⟩ := arg_reemitted_verbatim ha
    exact List.append_nil _ ▸ SplitOf.one a j
  · rename_i a c r' hc as' hrec ha ih
    obtain ⟨⟨j, rfl⟩, -⟩ := arg_reemitted_verbatim ha
    exact .cons a j c as' r' hc (ih hrec)

/-- **Every argument is handed on token for token, unchanged and in order.** Whatever list the
derive accepts, the arguments it found are the input cut at commas: nothing dropped, duplicated
or reordered; the only tokens not inside an argument are the separating commas (an optional one
in front, after the literal, and an optional trailing one). -/
theorem args_reemitted_verbatim (ts : List Tok) (as : List Arg) (h : parseArgs ts = some as) :
    SplitOf as ts ∨ ∃ c rest, ts = c :: rest ∧ c.isComma = true ∧ SplitOf as rest := by
  revert h
  fun_cases parseArgs ts
  · intro h; cases h; exact .inl .nil
  · rename_i t r hc
    intro h
    exact .inr ⟨t, r, rfl, hc, parseArgsLoop_splitOf h⟩
  · intro h
    exact .inl (parseArgsLoop_splitOf h)

/- `+kernel`: most of the work is `keywords.contains "n"` (the alias test), which plain `decide`
evaluates twice, in the elaborator and in the kernel. -/
/-- Non-vacuity: `, a + 1, n = f(x, y),` is the two arguments `a + 1` and `n = f(x, y)`. -/
example : (parseArgs [.punct ',' false, .ident "a", .punct '+' false, .lit "1", .punct ',' false, .ident "n",
    .punct '=' false, .ident "f", .group .paren [.ident "x", .punct ',' false, .ident "y"], .punct ',' false]).map
      (fun as => as.map fun a => (a.alias, a.expr.toks.length)) = some [(none, 3), (some "n", 2)] := by decide +kernel

/-- Tokens that trigger none of the special rules: anything but `<`, `|`, `:` and `,` - in
particular every delimited group, whatever it contains. -/
def Plain (t : Tok) : Prop :=
  t.isPunct '<' = false ∧ t.isPunct '|' = false ∧ t.isPunct ':' = false ∧ t.isComma = false

theorem exprStep_plain {t : Tok} (r : List Tok) (h : Plain t) : exprStep (t :: r) = some ([t], r) := by
  rw [exprStep_of_not_colon_lt r h.2.2.1 h.1, balancedPair_eq_none_of_head h.2.1]

/-- Sequences balanced with respect to `<` / `>`. -/
inductive Bal : List Tok → Prop where
  | nil : Bal []
  | other (t : Tok) (r : List Tok) : t.isPunct '<' = false → t.isPunct '>' = false → Bal r → Bal (t :: r)
  | nest (o c : Tok) (inner r : List Tok) : o.isPunct '<' = true → c.isPunct '>' = true →
      Bal inner → Bal r → Bal (o :: (inner ++ c :: r))

/-- Inside a `<`..`>` still `n + 1` deep, a balanced run and the `>` after it are passed over and leave the
depth at `n`. -/
theorem balancedLoop_bal {inner : List Tok} {c : Tok} (hb : Bal inner) (r : List Tok) (n : Nat)
    (hc : c.isPunct '>' = true) :
    balancedLoop '<' '>' (inner ++ c :: r) (n + 1) =
      (balancedLoop '<' '>' r n).map fun (out, r') => (inner ++ c :: out, r') := by
  induction hb generalizing c r n with
  | nil =>
    simp only [List.nil_append, balancedLoop, hc, if_true]
    -- both sides are the same function of the recursive call, once as a `match`, once as a `map`
    cases balancedLoop '<' '>' r n <;> rfl
  | other t rest h1 h2 _ ih =>
    simp only [List.cons_append, balancedLoop, h1, h2, Bool.false_eq_true, if_false]
    rw [ih r n hc]
    cases balancedLoop '<' '>' r n <;> rfl
  | nest o cl inner rest ho hcl _ _ ih1 ih2 =>
    have hog : o.isPunct '>' = false := Tok.isPunct_ne ho (by decide)
    simp only [List.cons_append, balancedLoop, ho, hog, Bool.false_eq_true, if_false, if_true,
      List.append_assoc]
    rw [ih1 (rest ++ c :: r) (n + 1) hcl, ih2 r n hc]
    cases balancedLoop '<' '>' r n <;> rfl

/-- `<` balanced-inner `>` is consumed as one unit by `balanced_pair`. -/
theorem balancedPair_bal {o c : Tok} {inner : List Tok} (r : List Tok) (ho : o.isPunct '<' = true)
    (hc : c.isPunct '>' = true) (hb : Bal inner) :
    balancedPair '<' '>' (o :: (inner ++ c :: r)) = some (o :: (inner ++ [c]), r) := by
  unfold balancedPair
  rw [if_pos ho, balancedLoop_bal hb r 0 hc, balancedLoop]
  rfl

/-- Turbofish: the commas of `::<A, B>` do not split. -/
theorem turbofish_taken_whole (j : Bool) (o c : Tok) (inner r : List Tok)
    (ho : o.isPunct '<' = true) (hc : c.isPunct '>' = true) (hb : Bal inner) :
    exprStep (.punct ':' true :: .punct ':' j :: o :: (inner ++ c :: r)) =
      some (.punct ':' true :: .punct ':' j :: o :: (inner ++ [c]), r) :=
  exprStep_turbofish j (balancedPair_bal r ho hc hb)

/-- Qualified paths: the commas of `<A as T<B, C>>::X` do not split. -/
theorem qualified_path_taken_whole (j : Bool) (o c : Tok) (inner r : List Tok)
    (ho : o.isPunct '<' = true) (hc : c.isPunct '>' = true) (hb : Bal inner) :
    exprStep (o :: (inner ++ c :: .punct ':' true :: .punct ':' j :: r)) =
      some (o :: (inner ++ [c, .punct ':' true, .punct ':' j]), r) := by
  rw [exprStep_qpath (Tok.isPunct_ne ho (by decide)) (balancedPair_bal _ ho hc hb),
    List.cons_append, List.append_assoc]
  rfl

/-- An expression as a sequence of chunks the scanner takes one at a time: a plain token (any
delimited group included), a turbofish `::<..>`, a qualified-path head `<..>::`, a closure
parameter list `|..|`. The angle brackets are balanced inside, to any nesting depth. -/
inductive Chunked : List Tok → Prop where
  | nil : Chunked []
  | plain (t : Tok) (r : List Tok) : Plain t → Chunked r → Chunked (t :: r)
  | turbofish (j : Bool) (o c : Tok) (inner r : List Tok) :
      o.isPunct '<' = true → c.isPunct '>' = true → Bal inner → Chunked r →
      Chunked (.punct ':' true :: .punct ':' j :: o :: (inner ++ c :: r))
  | qpath (j : Bool) (o c : Tok) (inner r : List Tok) :
      o.isPunct '<' = true → c.isPunct '>' = true → Bal inner → Chunked r →
      Chunked (o :: (inner ++ c :: .punct ':' true :: .punct ':' j :: r))
  | closure (o c : Tok) (params r : List Tok) :
      o.isPunct '|' = true → c.isPunct '|' = true → (∀ t ∈ params, t.isPunct '|' = false) →
      Chunked r → Chunked (o :: (params ++ c :: r))

theorem takeUntilComma_stop (fuel : Nat) (acc : List Tok) {rest : List Tok} (hr : StartsWithComma rest) :
    takeUntilComma (fuel + 1) rest true acc = some (acc, rest) := by
  cases rest with
  | nil => rfl
  | cons t r => simp only [takeUntilComma, show t.isComma = true from hr, if_true]

/-- `Scans rest e`: in front of `rest`, the scanner walks through `e` in whole steps, none of
them starting at a comma. -/
inductive Scans (rest : List Tok) : List Tok → Prop where
  | nil : Scans rest []
  | step {t : Tok} {e chunk r : List Tok} : t.isComma = false →
      exprStep (t :: (e ++ rest)) = some (chunk, r ++ rest) → Scans rest r → Scans rest (t :: e)

/-- What the loop returns is settled by `Scans` alone; the fuel only has to cover the tokens. -/
theorem takeUntilComma_scans {rest e : List Tok} (h : Scans rest e) (hr : StartsWithComma rest)
    (fuel : Nat) (parsed : Bool) (acc : List Tok) (hf : e.length < fuel) (hp : e ≠ [] ∨ parsed = true) :
    takeUntilComma fuel (e ++ rest) parsed acc = some (acc ++ e, rest) := by
  induction h generalizing fuel parsed acc with
  | nil =>
    obtain rfl : parsed = true := hp.resolve_left (fun h => h rfl)
    cases fuel with
    | zero => cases hf
    | succ f => rw [List.nil_append, List.append_nil, takeUntilComma_stop f acc hr]
  | @step t e chunk r ht hs _ ih =>
    cases fuel with
    | zero => cases hf
    | succ f =>
      -- `chunk` is not empty and `chunk ++ r` is `t :: e`: the step hands on what it read
      obtain ⟨hpre, hne⟩ := exprStep_prefix hs
      have hcr : chunk ++ r = t :: e :=
        List.append_cancel_right ((List.append_assoc ..).trans hpre)
      have hlen : r.length < (t :: e).length := by
        rw [← hcr, List.length_append]
        exact Nat.lt_add_of_pos_left (List.length_pos_iff.mpr hne)
      rw [List.cons_append, takeUntilComma_step f parsed acc ht hs,
        ih f true _ (Nat.lt_of_lt_of_le hlen (Nat.le_of_lt_succ hf)) (.inr rfl), List.append_assoc, hcr]

theorem chunked_scans {e : List Tok} (h : Chunked e) (rest : List Tok) : Scans rest e := by
  -- in each case `e ++ rest` is the input of the chunk's step lemma up to one `List.append_assoc`
  induction h with
  | nil => exact .nil
  | plain t r ht _ ih => exact .step ht.2.2.2 (exprStep_plain _ ht) ih
  | turbofish j o c inner r ho hc hb _ ih =>
    exact .step rfl
      (List.append_assoc inner (c :: r) rest ▸ turbofish_taken_whole j o c inner (r ++ rest) ho hc hb) ih
  | qpath j o c inner r ho hc hb _ ih =>
    exact .step (Tok.isPunct_ne ho (by decide))
      (List.append_assoc inner (c :: .punct ':' true :: .punct ':' j :: r) rest ▸
        qualified_path_taken_whole j o c inner (r ++ rest) ho hc hb) ih
  | closure o c params r ho hc hp _ ih =>
    exact .step (Tok.isPunct_ne ho (by decide))
      (List.append_assoc params (c :: r) rest ▸ exprStep_closure (r ++ rest) ho hc hp) ih

/-- **Commas inside generic argument lists and closure parameter lists never split** (nor those
inside groups): a chunked expression is consumed as a whole, up to the next top-level comma. -/
theorem chunked_taken_whole : ∀ (e : List Tok), Chunked e → ∀ (rest acc : List Tok) (fuel : Nat) (parsed : Bool),
    StartsWithComma rest → e.length < fuel → (e ≠ [] ∨ parsed = true) →
    takeUntilComma fuel (e ++ rest) parsed acc = some (acc ++ e, rest) :=
  fun _ he rest acc fuel parsed hr => takeUntilComma_scans (chunked_scans he rest) hr fuel parsed acc

/-- `es` joined by the separator `c`. -/
def joinC (c : Tok) : List (List Tok) → List Tok
  | [] => []
  | [e] => e
  | e :: es => e ++ c :: joinC c es

/-- What `Expr::parse` makes of a complete argument: a lone identifier, or a token sequence. -/
def mkExpr (e : List Tok) : Expr :=
  match e with
  | [.ident s] => .ident s
  | _ => .other e

/-- The argument does not begin with `ident =` (which would be read as an alias). -/
def NotAliasStart (e : List Tok) : Prop := ∀ a j r, e ≠ .ident a :: .punct '=' j :: r

/-- `Expr::parse` is the scan followed by `mkExpr`: its two special cases for a lone identifier
are what the scan and `mkExpr` give anyway. -/
theorem parseExpr_eq_scan (ts : List Tok) :
    parseExpr ts = (takeUntilComma (ts.length + 1) ts false []).map fun (out, r) => (mkExpr out, r) := by
  fun_cases parseExpr ts
  · rfl
  · rfl
  · rename_i out r hs h1 h2
    rw [hs]
    -- a lone identifier in front of a comma or the end is one of the two special cases
    have hm : mkExpr out = .other out := by
      unfold mkExpr
      split
      · rename_i s
        obtain ⟨_, rfl, rfl, hr⟩ := takeUntilComma_prefix hs
        rcases hr with rfl | ⟨c, r', rfl, hc⟩
        · exact absurd rfl (h1 s)
        · obtain ⟨j, rfl⟩ := Tok.eq_punct_of_isPunct hc
          exact absurd rfl (h2 s j r')
      · rfl
    show some (Expr.other out, r) = some (mkExpr out, r)
    rw [hm]
  · rename_i hs _ _
    rw [hs]
    rfl

theorem NotAliasStart.append {e rest : List Tok} (hne : e ≠ []) (hna : NotAliasStart e)
    (hr : StartsWithComma rest) : NotAliasStart (e ++ rest) := by
  intro a j r h
  cases e with
  | nil => exact hne rfl
  | cons t e =>
    cases e with
    | nil => cases h; cases hr
    | cons u e => cases h; exact hna a j e rfl

theorem parseArg_chunked {e rest : List Tok} (hne : e ≠ []) (hch : Chunked e) (hna : NotAliasStart e)
    (hr : StartsWithComma rest) : parseArg (e ++ rest) = some ({ alias := none, expr := mkExpr e }, rest) := by
  unfold parseArg
  rw [startsWithAlias_eq_none_of_ne (hna.append hne hr), parseExpr_eq_scan,
    chunked_taken_whole e hch rest [] _ false hr
      (Nat.lt_succ_of_le (List.length_append ▸ Nat.le_add_right _ _)) (.inl hne)]
  rfl

/-- The list loop is `parseArg` on each piece: if `parseArg` reads every `e ∈ es` off the front of
whatever starts with a comma, as `f e`, it reads `es` joined by commas as `es.map f`. -/
theorem parseArgsLoop_joinC {f : List Tok → Arg} (c : Tok) (hc : c.isComma = true) (es : List (List Tok)) (fuel : Nat)
    (h : ∀ e ∈ es, ∀ rest, StartsWithComma rest → parseArg (e ++ rest) = some (f e, rest))
    (hf : es.length < fuel) : parseArgsLoop fuel (joinC c es) = some (es.map f) := by
  -- along `joinC`'s own three cases; in each the fuel is a successor
  fun_induction joinC c es generalizing fuel <;> cases fuel
  · cases hf
  · rfl
  · cases hf
  · rename_i e _
    have h1 := h e (.head _) [] trivial
    rw [List.append_nil] at h1
    exact parseArgsLoop_last h1
  · cases hf
  · rename_i e es _ ih fuel
    rw [parseArgsLoop_comma hc (h e (.head _) _ hc), ih fuel (fun x hx => h x (.tail _ hx)) (Nat.lt_of_succ_lt_succ hf)]
    rfl

/-- **The whole list, with generic arguments and closures**: any number of chunked arguments
(plain tokens, groups, turbofish, qualified paths, closure parameter lists — balanced to any depth)
joined by commas is read back as exactly those arguments. Together with the known findings below
(a binary `|`, a cast to a generic type, `->` inside generic arguments, `a < b, c > ::d`) this is
where the scanner agrees with Rust's grammar and where it does not. -/
theorem chunked_list_split_at_commas (c : Tok) (hc : c.isComma = true) :
    ∀ (es : List (List Tok)) (fuel : Nat),
      (∀ e ∈ es, e ≠ []) → (∀ e ∈ es, Chunked e) → (∀ e ∈ es, NotAliasStart e) →
      es.length < fuel →
      parseArgsLoop fuel (joinC c es) = some (es.map fun e => { alias := none, expr := mkExpr e }) :=
  fun es fuel hne hch hna =>
    parseArgsLoop_joinC c hc es fuel fun e he _ hr => parseArg_chunked (hne e he) (hch e he) (hna e he) hr

theorem chunked_of_plain {e : List Tok} (h : ∀ t ∈ e, Plain t) : Chunked e := by
  induction e with
  | nil => exact .nil
  | cons t e ih => exact .plain t e (h t (.head _)) (ih fun u hu => h u (.tail _ hu))

/-- **Commas inside parentheses, brackets and braces never split, and every top-level comma
does**: a list of arguments, each a non-empty sequence of plain tokens and delimited groups
(whatever the groups contain), joined by commas, is read back as exactly those arguments — for
any number of arguments of any length. -/
theorem plain_list_split_at_commas (c : Tok) (hc : c.isComma = true) :
    ∀ (es : List (List Tok)) (fuel : Nat),
      (∀ e ∈ es, e ≠ []) → (∀ e ∈ es, ∀ t ∈ e, Plain t) → (∀ e ∈ es, NotAliasStart e) →
      es.length < fuel →
      parseArgsLoop fuel (joinC c es) = some (es.map fun e => { alias := none, expr := mkExpr e }) :=
  fun es fuel hne hp hna =>
    chunked_list_split_at_commas c hc es fuel hne (fun e he => chunked_of_plain (hp e he)) hna

/-- Non-vacuity: `f(a, b), [x, y], {p, q} + 1` — three arguments although there are six commas. -/
example : (parseArgsLoop 9 (joinC (.punct ',' false)
    [[.ident "f", .group .paren [.ident "a", .punct ',' false, .ident "b"]],
     [.group .bracket [.ident "x", .punct ',' false, .ident "y"]],
     [.group .brace [.ident "p", .punct ',' false, .ident "q"], .punct '+' false, .lit "1"]])).map List.length
    = some 3 := by decide

/-- Non-vacuity: `f::<A, B>(x)`, `<A as T<B, C>>::X` and `|p, q| p` are chunked. -/
example : Chunked [.ident "f", .punct ':' true, .punct ':' false, .punct '<' false, .ident "A", .punct ',' false,
    .ident "B", .punct '>' false, .group .paren [.ident "x"]] :=
  .plain _ _ ⟨rfl, rfl, rfl, rfl⟩
    (.turbofish false (.punct '<' false) (.punct '>' false) [.ident "A", .punct ',' false, .ident "B"] _ rfl rfl
      (.other _ _ rfl rfl (.other _ _ rfl rfl (.other _ _ rfl rfl .nil)))
      (.plain _ _ ⟨rfl, rfl, rfl, rfl⟩ .nil))

/-! ### Known deviations from Rust's grammar (kernel-checked witnesses of the findings) -/

/-- `a | b, c | d`: a binary `|` is taken for the start of a closure parameter list and the
comma is swallowed - one argument instead of two. -/
theorem binary_or_swallows_comma :
    (parseArgs [.punct ',' false, .ident "a", .punct '|' false, .ident "b", .punct ',' false,
      .ident "c", .punct '|' false, .ident "d"]).map List.length = some 1 := by decide

/-- `x as M<K, V>`: without a `::` next to it the generic argument list of a cast is split. -/
theorem cast_to_generic_type_is_split :
    (parseArgs [.punct ',' false, .ident "x", .ident "as", .ident "M", .punct '<' false, .ident "K",
      .punct ',' false, .ident "V", .punct '>' false]).map List.length = some 2 := by decide

/-- `a < b, c > ::d`: the `<` of one argument and the `> ::` of a later one are paired as `<..>::`;
one argument instead of two comparisons. -/
theorem lt_and_gt_global_path_is_one_argument :
    (parseArgs [.punct ',' false, .ident "a", .punct '<' false, .ident "b", .punct ',' false,
      .ident "c", .punct '>' false, .punct ':' true, .punct ':' false, .ident "d"]).map List.length = some 1 := by decide

/-- Non-vacuity: `f::<A, B>(1), y` is two arguments. -/
example : (parseArgs [.punct ',' false, .ident "f", .punct ':' true, .punct ':' true, .punct '<' false,
    .ident "A", .punct ',' false, .ident "B", .punct '>' false, .group .paren [.lit "1"],
    .punct ',' false, .ident "y"]).map List.length = some 2 := by decide

end Dm.Props.C16
