import Dm.Lemmas.Delegate

/-
C14 — delegating derives expose the selected field itself.
-/
namespace Dm.Props.C14
open Dm.Del

variable {α : Type}

/-- The selected field is the only enabled one (and a second enabled field is an error, never an
arbitrary choice). -/
theorem single_enabled_unique (infos : List Full) (i : Nat) (f : Full)
    (h : singleEnabled infos = .ok (i, f)) :
    infos[i]? = some f ∧ f.enabled = true
      ∧ ∀ j g, infos[j]? = some g → g.enabled = true → j = i := by
  have hl := (singleEnabled_eq_ok_iff infos i f).1 h
  have hfi : (f, i) ∈ infos.zipIdx.filter fun x => x.1.enabled := hl ▸ List.mem_cons_self
  refine ⟨List.mem_zipIdx_iff_getElem?.1 (List.mem_filter.1 hfi).1, (List.mem_filter.1 hfi).2, fun j g hj hg => ?_⟩
  have hgj : (g, j) ∈ [(f, i)] := hl ▸ List.mem_filter.2 ⟨List.mem_zipIdx_iff_getElem?.2 hj, hg⟩
  exact (Prod.ext_iff.1 (List.mem_singleton.1 hgj)).2

/-- A struct with one un-annotated field selects it; `forward` is off. -/
theorem single_field_selected : singleEnabled (fieldInfos none [none]) =
    .ok (0, { enabled := true, forward := false, owned := true, ref := false, refMut := false }) := by
  rfl

/-- Without `forward`, Deref / DerefMut return a reference to the selected field's own storage. -/
theorem direct_is_same_address (infos : List Full) (i : Nat) (f : Full)
    (h : singleEnabled infos = .ok (i, f)) (hf : f.forward = false)
    (fieldRef : Nat → α) (fieldImpl : α → α) (tyEq : Bool) :
    (derefBody infos).map (evalBody fieldRef fieldImpl tyEq) = .ok (fieldRef i) := by
  rw [derefBody_of_single h, hf]; rfl

/-- With `forward`, they return precisely what the field's own implementation returns. -/
theorem forward_is_fields (infos : List Full) (i : Nat) (f : Full)
    (h : singleEnabled infos = .ok (i, f)) (hf : f.forward = true)
    (fieldRef : Nat → α) (fieldImpl : α → α) (tyEq : Bool) :
    (derefBody infos).map (evalBody fieldRef fieldImpl tyEq) = .ok (fieldImpl (fieldRef i)) := by
  rw [derefBody_of_single h, hf]; rfl

/-- Index / IndexMut return what the field's own `Index` returns. -/
theorem index_forwards (infos : List Full) (i : Nat) (f : Full)
    (h : singleEnabled infos = .ok (i, f)) (fieldRef : Nat → α) (fieldImpl : α → α) (tyEq : Bool) :
    (indexBody infos).map (evalBody fieldRef fieldImpl tyEq) = .ok (fieldImpl (fieldRef i)) := by
  rw [indexBody, h]; rfl

/-- The owned, shared and mutable iteration forms all iterate the same (selected) field. -/
theorem iter_forms_same_field (infos : List Full) (i : Nat) (f : Full)
    (h : singleEnabled infos = .ok (i, f)) (impls : List (RefKind × Nat))
    (hi : intoIterImpls infos = .ok impls) : ∀ p ∈ impls, p.2 = i := by
  rw [intoIterImpls, h] at hi
  cases hi
  intro p hp
  simp only [List.mem_append, List.mem_ite_nil_right, List.mem_singleton] at hp
  rcases hp with (⟨_, rfl⟩ | ⟨_, rfl⟩) | ⟨_, rfl⟩ <;> rfl

/-- `AsRef` / `AsMut` to a listed type that *is* the field's type yields the field itself, whether
the two spellings coincide (direct body) or only rustc knows they are equal (specialised body). -/
theorem asref_listed_field_type_is_identity (i : Nat) (fieldTy t : String) (tGeneric : Bool)
    (fieldRef : Nat → α) (fieldImpl : α → α) (impl : AsImpl)
    (h : impl ∈ asImpls i fieldTy false (.types [(t, tGeneric)])) (hg : tGeneric = false) :
    evalBody fieldRef fieldImpl true impl.body = fieldRef i := by
  obtain rfl := List.mem_singleton.1 h
  subst hg
  dsimp only
  by_cases heq : fieldTy = t
  · rw [if_pos heq]; rfl
  · rw [if_neg heq]; rfl

/-- and to a listed type that is *not* the field's type it forwards to the field's own impl. -/
theorem asref_other_type_forwards (i : Nat) (fieldTy t : String) (fg tg : Bool)
    (fieldRef : Nat → α) (fieldImpl : α → α) (impl : AsImpl)
    (h : impl ∈ asImpls i fieldTy fg (.types [(t, tg)])) (hne : fieldTy ≠ t) :
    evalBody fieldRef fieldImpl false impl.body = fieldImpl (fieldRef i) := by
  obtain rfl := List.mem_singleton.1 h
  dsimp only
  rw [if_neg hne]
  cases (fg || tg) <;> rfl

/-- Plain `AsRef` (no attribute / `#[as_ref]`) returns the field itself; `forward` the field's. -/
theorem asref_plain_and_forward (i : Nat) (fieldTy : String) (fg : Bool)
    (fieldRef : Nat → α) (fieldImpl : α → α) (tyEq : Bool) :
    (asImpls i fieldTy fg .plain).map (fun x => evalBody fieldRef fieldImpl tyEq x.body) = [fieldRef i]
    ∧ (asImpls i fieldTy fg .forward).map (fun x => evalBody fieldRef fieldImpl tyEq x.body)
        = [fieldImpl (fieldRef i)] :=
  ⟨rfl, rfl⟩

/-- Non-vacuity: `struct S(A, #[deref] B, C)` selects field 1; `(#[deref(ignore)] A, B)` field 1. -/
example : (singleEnabled (fieldInfos none [none, some [], none])).map (·.1) = .ok 1 := by rfl
example : (singleEnabled (fieldInfos none [some [.ignore], none])).map (·.1) = .ok 1 := by rfl
example : singleEnabled (fieldInfos none [none, none]) = .error .panicDeliberate := by rfl

/-! ### Struct-level defaults and field-level settings (`MetaInfo::into_full`) -/

/-- What a field's own attribute says wins over what the struct-level attribute (or the derive's
default) says; in particular `not(forward)` on the field switches a struct-level `forward` off. -/
theorem field_setting_overrides_inherited (m : Meta) (d : Full) (b : Bool) (h : m.forward = some b) :
    (m.intoFull d).forward = b := by
  simp [Meta.intoFull, h]

/-- A field that says nothing inherits. -/
theorem unset_inherits (m : Meta) (d : Full) (h : m.forward = none) :
    (m.intoFull d).forward = d.forward := by
  simp [Meta.intoFull, h]

/-- `#[deref(forward)] struct S { #[deref(not(forward))] a: A, #[deref(ignore)] b: B }`: field `a` is
selected and dereferenced directly, not through its own `Deref`. -/
theorem not_forward_field_is_direct :
    derefBody (fieldInfos (some [.forward]) [some [.notForward], some [.ignore]]) = .ok (.direct 0) := by
  rfl

end Dm.Props.C14
