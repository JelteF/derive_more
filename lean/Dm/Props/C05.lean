import Dm.Lemmas.FmtExpand

/-
C05 — caller's formatting flags pass through exactly for bare-placeholder formats.
Property theorems about the transparency decision (`transparent_call`, `impl/src/fmt/mod.rs`) and
about the two bodies it selects between.
-/
namespace Dm.Props.C05
open Dm.Fmt Dm.FmtX

/-- The property's wording: what the single placeholder refers to. -/
inductive Refers : Option Arg → List FArg → ExprR → Prop where
  /-- `{}` with exactly one argument. -/
  | implicit (x : FArg) : Refers none [x] (.arg x)
  /-- `{0}` with exactly one argument. -/
  | index0 (x : FArg) : Refers (some (.int 0)) [x] (.arg x)
  /-- `{name}` without arguments: a field (or other outer binding) by name. -/
  | binding (n : Name) : Refers (some (.ident n)) [] (.ident n)
  /-- `{name}` with exactly one argument `name = expr`. -/
  | alias (n : Name) (x : FArg) (h : x.alias = some n) : Refers (some (.ident n)) [x] (.arg x)

theorem referTo_iff {arg : Option Arg} {args : List FArg} {e : ExprR} :
    referTo arg args = some e ↔ Refers arg args e := by
  constructor
  · fun_cases referTo arg args <;> intro h <;> cases h
    · exact .implicit _
    · exact .index0 _
    · exact .binding _
    · exact .alias _ _ ‹_›
  · rintro (x | x | n | ⟨n, x, h⟩)
    · rfl
    · rfl
    · rfl
    · exact if_pos h

/-- The attribute delegates to `Trait::fmt(expr, f)` exactly when its literal is one placeholder
without fill, alignment, sign, `#`, `0`, width, precision or `x?`/`X?` that refers to its only
argument or to a binding by name; the trait is the placeholder's. -/
theorem transparent_iff_bare (cc : CharClasses) (a : FmtAttr) (e : ExprR) (t : Trait) :
    transparentCall cc a = some (e, t) ↔
      ∃ f, format cc a.lit = some ([], f) ∧ f.hasModifiers = false ∧ t = f.ty.trait
        ∧ Refers f.arg a.args e := by
  constructor
  · -- the one branch of `transparent_call` that returns something
    fun_cases transparentCall cc a <;> intro h <;> cases h
    rename_i f hf hm he
    exact ⟨f, hf, Bool.eq_false_iff.2 hm, rfl, referTo_iff.1 he⟩
  · rintro ⟨f, hf, hm, rfl, hr⟩
    unfold transparentCall
    rw [hf]
    simp [hm, referTo_iff.2 hr]

/-- A positional index other than 0 never delegates (it reaches `write!`, where an index that
denotes no argument is rustc's compile error). -/
theorem nonzero_index_never_transparent (cc : CharClasses) (a : FmtAttr) (f : Format) (i : Nat)
    (hf : format cc a.lit = some ([], f)) (hi : f.arg = some (.int (i + 1))) :
    transparentCall cc a = none := by
  refine Option.eq_none_iff_forall_ne_some.2 fun p h => ?_
  obtain ⟨f', hf', -, -, hr⟩ := (transparent_iff_bare _ _ p.1 p.2).1 h
  cases hf.symm.trans hf'
  rw [hi] at hr
  cases hr

/-- Any modifier on the placeholder prevents delegation. -/
theorem modifiers_never_transparent (cc : CharClasses) (a : FmtAttr) (f : Format)
    (hf : format cc a.lit = some ([], f)) (hm : f.hasModifiers = true) :
    transparentCall cc a = none := by
  refine Option.eq_none_iff_forall_ne_some.2 fun p h => ?_
  obtain ⟨f', hf', hm', -⟩ := (transparent_iff_bare _ _ p.1 p.2).1 h
  cases hf.symm.trans hf'
  cases hm.symm.trans hm'

/-- A literal that is not exactly one placeholder (text around it, several placeholders, escapes,
unparsable) never delegates. -/
theorem not_single_placeholder_never_transparent (cc : CharClasses) (a : FmtAttr)
    (h : ∀ f, format cc a.lit ≠ some ([], f)) : transparentCall cc a = none := by
  refine Option.eq_none_iff_forall_ne_some.2 fun p h' => ?_
  obtain ⟨f, hf, -⟩ := (transparent_iff_bare _ _ p.1 p.2).1 h'
  exact h f hf

/-! ### The two bodies under a caller's formatter options

Modelled fragment of std (trusted, validated by the behaviour grid on every run):
`Trait::fmt(x, f)` formats `x` under the caller's options; `write!(f, lit, args..)` formats every
placeholder under the options written in the literal and never consults the caller's. -/

structure Opts where
  fill : Char := ' '
  align : Option Align := none
  sign : Option Sign := none
  alt : Bool := false
  zero : Bool := false
  width : Option Nat := none
  prec : Option Nat := none
  deriving DecidableEq

/-- Semantics of a generated body: `fmtArg` is the (arbitrary) formatting behaviour of the
delegated expression, `writeText` the text `write!` produces for an attribute. -/
def evalBody (fmtArg : Trait → String → Opts → String) (writeText : FmtAttr → String)
    (wstr : String → Opts → String) : BodyD → Opts → String
  | .delegate tr e, o => fmtArg tr e o
  | .write a _, _ => writeText a
  | .writeStr s, o => wstr s o
  | .wrapped _ sh, o => evalBody fmtArg writeText wstr sh o
  | .empty, _ => ""

/-- Pass-through: a delegating body applies the caller's options to the argument under the
placeholder's trait, exactly as formatting the argument directly does. -/
theorem passthrough (fmtArg) (writeText) (wstr) (tr : Trait) (e : String) (o : Opts) :
    evalBody fmtArg writeText wstr (.delegate tr e) o = fmtArg tr e o := rfl

/-- Inert: a `write!` body yields the same text whatever options the caller supplies. -/
theorem inert (fmtArg) (writeText) (wstr) (a : FmtAttr) (ds : List Name) (o o' : Opts) :
    evalBody fmtArg writeText wstr (.write a ds) o = evalBody fmtArg writeText wstr (.write a ds) o' := rfl

/-- The body chosen for a struct/variant attribute is a delegation iff the attribute is
transparent, and a `write!` of the attribute otherwise. -/
theorem attr_body_cases (c : Ctx) (a : FmtAttr) (fields : FieldsD) :
    (∃ e t, transparentCall c.cc a = some (e, t) ∧
        fmtBody c a fields = .delegate t (onFields a.args.isEmpty fields.idents e))
    ∨ (transparentCall c.cc a = none ∧ ∃ ds, fmtBody c a fields = .write a ds) := by
  rw [fmtBody_eq]
  cases transparentCall c.cc a with
  | none => exact .inr ⟨rfl, _, rfl⟩
  | some p => exact .inl ⟨p.1, p.2, rfl, rfl⟩

/-- The delegated expression is the field itself only when the placeholder names the field inside
the literal; a field's name inside an argument expression is a reference to it and is passed as
`&(expr)` like any other expression (the difference is visible under `{:p}`). -/
theorem argument_expression_is_referenced (fields : List (Option Name)) (e : ExprR) :
    onFields false fields e = "&(" ++ e.toks ++ ")" := rfl

/-- Without an attribute a single-field struct delegates to its field under the derived trait. -/
theorem no_attr_single_field (c : Ctx) (ident : Name) (f : FieldD) (fs : FieldsD)
    (hfs : fs.list = [f]) :
    displayBody c { shared := none, attrs := {}, ident := ident, fields := fs } =
      .ok (.delegate c.tr (String.ofList (f.name.getD "_0".toList))) := by
  rw [displayBody_own (sharedAttrInfo_of_shared_eq_none rfl)]
  simp only [hfs]

/-- Non-vacuity: `#[display("{_0:x}")]` on `struct S(u8)` delegates to `LowerHex` of `_0`. -/
example : ∃ e, transparentCall ⟨Char.isAlpha, fun c => c.isAlphanum || c = '_', fun c => c = ' '⟩
    { lit := "{_0:x}".toList, emit := "", args := [] } = some (e, .lowerHex) := by
  refine ⟨.ident "_0".toList, ?_⟩
  -- read the literals as `String.ofList`: evaluating `toList` of one decodes UTF-8 in the kernel
  rw [String.toList_ofList, String.toList_ofList]
  decide

end Dm.Props.C05
