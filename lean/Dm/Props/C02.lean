import Dm.Lemmas.FmtExpand

/-
C02 — derived formatting prints exactly what `format!` prints for the same literal.
-/
namespace Dm.Props.C02
open Dm.Fmt Dm.FmtX

/-- A non-transparent attribute reaches `write!` unchanged: the very same attribute (literal and
argument tokens, `emit`) plus only the pointer re-bindings. -/
theorem write_passes_attribute_verbatim (c : Ctx) (a : FmtAttr) (fields : FieldsD)
    (h : transparentCall c.cc a = none) :
    fmtBody c a fields = .write a (additionalDerefArgs c.cc a fields.idents) := by
  rw [fmtBody_eq, h]

/-- An attribute's literal is never written raw: the body is either `write!` with the very literal
(so `{{` / `}}` are un-escaped by `format_args!`, also when the literal has no placeholder at all) or
the transparent delegation — nothing else, in particular no `write_str` of the literal's text. -/
theorem attribute_body_is_write_or_delegate (c : Ctx) (a : FmtAttr) (fields : FieldsD) :
    (∃ ds, fmtBody c a fields = .write a ds) ∨ (∃ tr e, fmtBody c a fields = .delegate tr e) := by
  rw [fmtBody_eq]
  cases transparentCall c.cc a with
  | none => exact .inl ⟨_, rfl⟩
  | some p => exact .inr ⟨_, _, rfl⟩

/-- The only extra arguments are `f = *f` for exactly the fields that the literal names under
`Pointer` and that the user did not alias. -/
theorem deref_args_iff (cc : CharClasses) (a : FmtAttr) (fields : List (Option Name)) (f : Name) :
    f ∈ additionalDerefArgs cc a fields ↔
      f ∈ fmtArgsIdents fields
      ∧ (∃ p ∈ parseFmtString cc a.lit, p.arg = .named (unraw f) ∧ p.trait = .pointer)
      ∧ ¬ ∃ x ∈ a.args, x.alias = some f := by
  unfold additionalDerefArgs
  simp only [List.mem_filter, Bool.and_eq_true, List.any_eq_true, Bool.not_eq_true', List.any_eq_false,
    decide_eq_true_eq, exists_eq_right', not_exists, not_and]
  -- what is left: the names collected from the literal are those of its `Pointer` placeholders
  refine and_congr_right fun _ => and_congr_left' ?_
  rw [List.mem_filterMap]
  refine exists_congr fun p => and_congr_right fun _ => ?_
  cases p.arg with
  | pos i => simp
  | named n => by_cases hpt : p.trait = .pointer <;> simp [hpt]

/-- Without an attribute a unit struct / unit variant prints its (unraw) name, converted by
`rename_all` when given. -/
theorem unit_prints_name (c : Ctx) (cont : Container) (ident : Name) (fields : FieldsD)
    (hf : cont.fmt = none) (hu : fields.list = []) :
    displayBody c { shared := none, attrs := cont, ident := ident, fields := fields } =
      .ok (.writeStr (match cont.rename with
        | some cs => c.conv cs (unraw ident)
        | none => String.ofList (unraw ident))) := by
  rw [displayBody_own (sharedAttrInfo_of_shared_eq_none rfl)]
  simp only [hf, hu]
  rfl

/-- Without an attribute a single-field struct / variant prints as its field does under the
derived trait. -/
theorem single_field_prints_field (c : Ctx) (cont : Container) (ident : Name) (fields : FieldsD)
    (f : FieldD) (hf : cont.fmt = none) (h1 : fields.list = [f]) :
    displayBody c { shared := none, attrs := cont, ident := ident, fields := fields } =
      .ok (.delegate c.tr (String.ofList (f.name.getD "_0".toList))) := by
  rw [displayBody_own (sharedAttrInfo_of_shared_eq_none rfl)]
  simp only [hf, h1]

/-! ### Why `f = *f` is needed, and only under `Pointer`

Fragment of std (trusted, validated by the behaviour run): a reference formats like its referent
under every trait except `Pointer`, which prints the reference itself. -/

inductive Val (α : Type) where
  | own (a : α)
  | ref (v : Val α)

def fmtVal {α : Type} (fmtA : Trait → α → String) (addr : Val α → String) : Trait → Val α → String
  | t, .own a => fmtA t a
  | t, .ref v => if t = .pointer then addr v else fmtVal fmtA addr t v

/-- What the generated body binds a field name to inside the literal: a reference to the field
(`let f = &self.f`), re-bound to the field itself when `f = *f` is passed. -/
def bodyBinding {α : Type} (derefd : Bool) (field : α) : Val α :=
  if derefd then .own field else .ref (.own field)

/-- A placeholder naming a field prints the field itself (the documented binding), provided the
`Pointer` ones are re-bound - which `deref_args_iff` says happens exactly for them. -/
theorem named_placeholder_prints_field_itself {α : Type} (fmtA : Trait → α → String)
    (addr : Val α → String) (t : Trait) (derefd : Bool) (field : α)
    (h : t = .pointer → derefd = true) :
    fmtVal fmtA addr t (bodyBinding derefd field) = fmtVal fmtA addr t (.own field) := by
  unfold bodyBinding
  cases derefd with
  | true => rfl
  | false =>
    have ht : t ≠ .pointer := fun hp => by simpa using h hp
    simp [fmtVal, ht]

/-- Non-vacuity of `deref_args_iff`: `#[display("at {type:p} {n}")]` over `{ r#type, n }`. -/
example : additionalDerefArgs ⟨Char.isAlpha, fun c => c.isAlphanum || c = '_', fun c => c = ' '⟩
    { lit := "at {type:p} {n}".toList, emit := "", args := [] }
    [some "r#type".toList, some "n".toList] = ["r#type".toList] := by
  -- read the literals as `String.ofList`: evaluating `toList` of one decodes UTF-8 in the kernel
  rw [String.toList_ofList, String.toList_ofList, String.toList_ofList]
  decide +kernel

end Dm.Props.C02
