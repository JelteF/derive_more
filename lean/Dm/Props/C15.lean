import Dm.Lemmas.Hygiene
import Dm.Gen.Templates

/-
C15 — expansions depend on no name from the caller's scope.

`resolve_independent` is the statement over ALL scopes; `all_templates_closed` is the decidable fact
about the table regenerated from /repo's current `quote!` bodies. Their conjunction
(`expansions_scope_independent`) is the property for the modelled fragment of name resolution.
`escaping_path_depends` / `escaping_extern_depends` are the converse: what the analysis flags is a
real dependency on the caller's scope.
-/
namespace Dm.Props.C15
open Dm.Hyg

/-- **For every pair of caller scopes** that agree on what `derive_more` names: a closed template
resolves all its names identically in both. No prelude, shadowed prelude, anything. -/
theorem resolve_independent {Item : Type} (B : List Nat) (fx : Fixed Item) (σ σ' : Scope Item) (t : Template)
    (hdm : σ.name idDeriveMore = σ'.name idDeriveMore) (hc : closed B t = true) :
    resolution B fx σ t = resolution B fx σ' t := by
  have hesc : ∀ h ∈ heads t.toks, ¬ h.escapesIn B t.file = true :=
    List.filter_eq_nil_iff.1 (List.isEmpty_iff.1 hc)
  exact List.map_congr_left fun h hh =>
    resolveHead_independent fx hdm (Bool.eq_false_iff.2 (hesc h hh))

/-- Conversely an escaping head is a real dependency: two scopes that differ on it (and only on it)
resolve the template differently — the analysis does not flag harmless names only. -/
theorem escaping_path_depends {Item : Type} (B : List Nat) (fx : Fixed Item) (n : Nat) (a b : Item) (hab : a ≠ b)
    (hn : (Head.path n).escapes B = true) :
    ∃ σ σ' : Scope Item, σ.name idDeriveMore = σ'.name idDeriveMore ∧
      resolveHead B fx σ 0 (.path n) ≠ resolveHead B fx σ' 0 (.path n) := by
  simp only [Head.escapes, Bool.not_eq_true', Bool.or_eq_false_iff, beq_eq_false_iff_ne] at hn
  obtain ⟨⟨hp, hd⟩, hb⟩ := hn
  refine ⟨⟨fun k => if k = n then some a else none, fun _ => none, fun _ => none, fun _ => none⟩,
          ⟨fun k => if k = n then some b else none, fun _ => none, fun _ => none, fun _ => none⟩, ?_, ?_⟩
  · have : idDeriveMore ≠ n := fun h => hd h.symm
    simp [this]
  · have hb' : n ∉ B := by simpa using hb
    simp [resolveHead, hb', hp, hab]

/-- A crate named through a leading `::` other than the accepted `::std` is a dependency on the
caller's crate too: two callers whose extern preludes bind the name differently (`extern crate alloc
as core;`) resolve `::core::marker::Copy` differently. -/
theorem escaping_extern_depends {Item : Type} (B : List Nat) (fx : Fixed Item) (n : Nat) (a b : Item) (hab : a ≠ b)
    (hn : (Head.ext n).escapes B = true) :
    ∃ σ σ' : Scope Item, σ.name idDeriveMore = σ'.name idDeriveMore ∧
      resolveHead B fx σ 0 (.ext n) ≠ resolveHead B fx σ' 0 (.ext n) := by
  simp only [Head.escapes, Bool.not_eq_true', beq_eq_false_iff_ne] at hn
  refine ⟨⟨fun _ => none, fun _ => none, fun _ => none, fun _ => some a⟩,
          ⟨fun _ => none, fun _ => none, fun _ => none, fun _ => some b⟩, rfl, ?_⟩
  simp [resolveHead, hn, hab]

/-- The table regenerated from the working tree: every template is closed with respect to the
binders the templates themselves introduce. -/
theorem all_templates_closed :
    Dm.Gen.templates.all (fun t => closed (bindersOf Dm.Gen.templates) t) = true := by
  decide +kernel

/-- C15 for the modelled fragment: every template of the current source resolves identically in
every two scopes that agree on `derive_more`. -/
theorem expansions_scope_independent {Item : Type} (fx : Fixed Item) (σ σ' : Scope Item)
    (hdm : σ.name idDeriveMore = σ'.name idDeriveMore) (t : Template) (ht : t ∈ Dm.Gen.templates) :
    resolution (bindersOf Dm.Gen.templates) fx σ t = resolution (bindersOf Dm.Gen.templates) fx σ' t := by
  exact resolve_independent _ fx σ σ' t hdm (List.all_eq_true.1 all_templates_closed t ht)

/-! Non-vacuity: the analysis on concrete token trees. `Ok(x)` escapes; the qualified form is closed;
the table is not empty. -/
-- `Ok ( #x )` with `Ok` interned as 1001 (class 1: upper-case)
example : escaping [] [.i 1001, .g .paren [.v]] = [.path 1001] := by decide
-- a lower-case function called by its bare name (`drop ( #x )`) escapes too
example : escaping [] [.i 1000, .g .paren [.v]] = [.path 1000] := by decide
-- `derive_more :: core :: result :: Result :: Ok ( #x )`
example : closed [] ⟨9, 0, [.i idDeriveMore, .p 58 true, .p 58 false, .i idCore, .p 58 true, .p 58 false, .i 1000,
    .p 58 true, .p 58 false, .i 1005, .p 58 true, .p 58 false, .i 1001, .g .paren [.v]]⟩ = true := by decide
-- `panic ! ( .. )` escapes through the macro scope; `# [ doc = stringify ! ( #x ) ]` too
example : escaping [] [.i 1003, .p 33 false, .g .paren [.l]] = [.mac 1003] := by decide
example : escaping [] [.p 35 false, .g .bracket [.i 1004, .p 61 false, .i 1005, .p 33 false, .g .paren [.v]]] = [.mac 1005] := by decide
-- `fn f ( value : #t ) { value }`: bound by the template
example : closed [] ⟨9, 0, [.i kwFn, .i 1004, .g .paren [.i 1008, .p 58 false, .v], .g .brace [.i 1008]]⟩ = true := by decide
-- `( #x ) . #m ( )` is a method looked up through the traits in scope, except in the operator bodies
example : escaping [] [.g .paren [.v], .p 46 true, .v, .g .paren []] = [.methodVar] := by decide
example : closed [] ⟨0, 0, [.i 23, .p 46 true, .v, .p 46 true, .v, .g .paren [.i 1008, .p 46 true, .v]]⟩ = true := by decide
-- `. clone ( )` is a trait method that needs `Clone` in scope
example : escaping [] [.v, .p 46 false, .i 1012, .g .paren []] = [.method 1012] := by decide
-- `derive_more :: __private :: Conv :: < .. > :: default ( )`: not an inherent function of `Conv` - escapes;
-- `.. TryUnwrapError :: < _ > :: new ( .. )` does not
example : escaping [] [.i idDeriveMore, .p 58 true, .p 58 false, .i 1005, .p 58 true, .p 58 false, .p 60 false, .v, .p 62 true,
    .p 58 true, .p 58 false, .i 1000, .g .paren []] = [.assoc 1005 1000] := by decide
example : escaping [] [.i idDeriveMore, .p 58 true, .p 58 false, .i 1005, .p 58 true, .p 58 false, .p 60 false, .v, .p 62 true,
    .p 58 true, .p 58 false, .i idNew, .g .paren []] = [] := by decide
-- `< #t as derive_more :: core :: default :: Default > :: default ( )` is a qualified path: fine
example : escaping [] [.p 60 false, .v, .i 0, .i idDeriveMore, .p 58 true, .p 58 false, .i 1005, .p 62 true, .p 58 true, .p 58 false,
    .i 1000, .g .paren []] = [] := by decide
-- `:: core :: marker :: Copy` names the caller's `core`; `derive_more :: core :: marker :: Copy` does not
example : escaping [] [.p 58 true, .p 58 false, .i idCore, .p 58 true, .p 58 false, .i 1000, .p 58 true, .p 58 false, .i 1001] = [.ext idCore] := by decide
example : escaping [] [.i idDeriveMore, .p 58 true, .p 58 false, .i idCore, .p 58 true, .p 58 false, .i 1000, .p 58 true, .p 58 false, .i 1001] = [] := by decide
example : 200 < Dm.Gen.templates.length := by decide +kernel

end Dm.Props.C15
