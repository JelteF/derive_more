import Dm.Lemmas.Conv
import Dm.Lemmas.List

/-
C08 — From, Into and Constructor preserve field order and invert each other.
-/
namespace Dm.Props.C08
open Dm.Conv

variable {α : Type}

/-- `from(value)`: field `i` receives what its initialiser denotes. `cv` is the (arbitrary)
`From::from` applied by typed / forwarding conversions. With a single field `value` itself is the
component (`comp = none`). -/
def evalInit (cv : α → α) (value : List α) (d : α) : Init → α
  | .direct none => value.getD 0 d
  | .direct (some k) => value.getD k d
  | .conv _ _ none => cv (value.getD 0 d)
  | .conv _ _ (some k) => cv (value.getD k d)

/-- `Into`: the tuple of the listed fields, in the listed order. -/
def evalInto (fields : List Nat) (s : List α) (d : α) : List α := fields.map fun i => s.getD i d

/-- The component chosen for field `i` of `n` is component `i` (`value` itself is component 0 of one). -/
theorem evalInit_direct_comp (cv : α → α) (t : List α) (d : α) {n i : Nat} (hi : i < n) :
    evalInit cv t d (.direct (comp n i)) = t.getD i d := by
  unfold comp
  by_cases hn : n = 1
  · obtain rfl : i = 0 := Nat.lt_one_iff.1 (hn ▸ hi)
    rw [if_pos hn]
    rfl
  · rw [if_neg hn]
    rfl

theorem evalInit_conv (cv : α → α) (t : List α) (d : α) (a b : String) (c : Option Nat) :
    evalInit cv t d (.conv a b c) = cv (evalInit cv t d (.direct c)) := by
  cases c <;> rfl

theorem direct_inits_eval (cv : α → α) (t : List α) (d : α) {n : Nat} (ht : t.length = n) :
    ((List.range n).map fun i => evalInit cv t d (Init.direct (comp n i))) = t := by
  subst ht
  rw [List.map_congr_left fun i hi => evalInit_direct_comp cv t d (List.mem_range.1 hi)]
  exact ListFacts.map_range_getD t d

/-- Converting initialisers, one per element of any list as long as `t`, apply `cv` to every component
in place. -/
theorem conv_inits_eval {γ : Type} (cv : α → α) (t : List α) (d : α) {n : Nat} {l : List γ}
    (a b : γ × Nat → String) (ht : t.length = n) (hl : l.length = n) :
    (l.zipIdx.map fun x => Init.conv (a x) (b x) (comp n x.2)).map (evalInit cv t d) = t.map cv := by
  subst hl
  have h := congrArg (List.map cv) (direct_inits_eval cv t d ht)
  rw [List.map_map, ← ListFacts.map_zipIdx_snd _ l] at h
  rw [List.map_map, ← h]
  exact List.map_congr_left fun x _ => evalInit_conv cv t d _ _ _

/-- The tuple impl (`#[from]`): the i-th component goes into the i-th field. -/
theorem from_ith (isVariant hef : Bool) (fields : List Field) (impl : FromImpl)
    (h : fromExpand .empty isVariant hef fields = .ok [impl]) (cv : α → α) (t : List α) (d : α)
    (ht : t.length = fields.length) :
    impl.inits.map (evalInit cv t d) = t := by
  obtain rfl : _ = impl := List.head_eq_of_cons_eq (Except.ok.inj h)
  rw [List.map_map]
  exact direct_inits_eval cv t d ht

/-- Typed (`#[from(Ty)]`) and forwarding impls apply exactly one `From::from` per field, to the
component of the same position. -/
theorem forward_one_from_per_field (isVariant hef : Bool) (fields : List Field) (cv : α → α)
    (t : List α) (d : α) (ht : t.length = fields.length) :
    ∃ impl, fromExpand .forward isVariant hef fields = .ok [impl]
      ∧ impl.inits.map (evalInit cv t d) = t.map cv := by
  refine ⟨_, rfl, ?_⟩
  exact conv_inits_eval cv t d (fun x : (Field × String) × Nat => x.1.1.ty) (fun x => x.1.2) ht
    (by rw [List.length_zip, List.length_map, List.length_range, Nat.min_self])

/-- The set of generated `From` impls is the documented one. -/
theorem impl_count (attr : FromAttr) (isVariant hef : Bool) (fields : List Field) (impls : List FromImpl)
    (h : fromExpand attr isVariant hef fields = .ok impls) :
    impls.length = match attr with
      | .types tys => tys.length
      | .empty => 1
      | .forward => 1
      | .skip => 0
      | .none => if hef || (isVariant && fields.isEmpty) then 0 else 1 := by
  cases attr with
  | types tys => exact ListFacts.length_of_mapM_eq_ok h
  | empty => cases h; rfl
  | forward => cases h; rfl
  | skip => cases h; rfl
  | none =>
    rw [fromExpand_unannotated] at h
    by_cases hs : (hef || (isVariant && fields.isEmpty)) = true
    · rw [if_pos hs] at h; cases h; exact (if_pos hs).symm
    · rw [if_neg hs] at h; cases h; exact (if_neg hs).symm

/-- Once any variant carries `#[from]`, `#[from(types)]` or `#[from(forward)]`, un-annotated
variants get no impl; unit variants never get one implicitly. -/
theorem unannotated_variant_skipped (attrs : List FromAttr) (fields : List Field)
    (h : hasExplicitFrom attrs = true) : fromExpand .none true (hasExplicitFrom attrs) fields = .ok [] := by
  rw [fromExpand_unannotated, h]; rfl

theorem unit_variant_skipped (hef : Bool) : fromExpand .none true hef [] = .ok [] := by
  rw [fromExpand_unannotated]
  exact if_pos (Bool.or_true hef)

/-- **Wherever the explicit variant is declared** — before or after — an un-annotated variant of
the same enum gets no impl: the decision is taken over the whole enum, not over the variants read so
far. -/
theorem explicit_variant_anywhere_switches_off (vs : List (FromAttr × List Field)) (r : List (List FromImpl))
    (h : fromEnum vs = .ok r) (i j : Nat) (fs gs : List Field) (a : FromAttr)
    (hi : vs[i]? = some (.none, fs)) (hj : vs[j]? = some (a, gs))
    (ha : hasExplicitFrom [a] = true) : r[i]? = some [] := by
  have hmem : a ∈ vs.map (·.1) := List.mem_map.2 ⟨(a, gs), List.mem_of_getElem? hj, rfl⟩
  -- `ha` unfolds to `(test a || false) = true`
  have hef : hasExplicitFrom (vs.map (·.1)) = true :=
    List.any_eq_true.2 ⟨a, hmem, (Bool.or_false _).symm.trans ha⟩
  have hr := congrArg (·[i]?) (ListFacts.map_eq_of_mapM_eq_ok h)
  rw [List.getElem?_map, List.getElem?_map, hi, hef] at hr
  obtain ⟨y, hy, hfy⟩ := Option.map_eq_some_iff.1 hr.symm
  cases hfy
  exact hy

/-- Non-vacuity: `enum E { Plain(i32), #[from] Marked(i64) }` — the un-annotated variant comes first. -/
example : (fromEnum [(.none, [⟨none, "i32"⟩]), (.empty, [⟨none, "i64"⟩])]).map (fun r => r.map List.length) = .ok [0, 1] := by
  rfl

/-- Every generated `Into` impl of one expansion extracts exactly the given fields, in their
(declaration) order. -/
theorem into_fields_in_order (fields : List (Nat × Field)) (c : ConvsAttr) (impls : List IntoImpl)
    (h : intoExpand fields c = .ok impls) : ∀ impl ∈ impls, impl.fields = fields.map (·.1) := by
  obtain ⟨a, b, d, ha, hb, hd, rfl⟩ := intoExpand_eq_ok h
  intro impl hm
  rcases List.mem_append.1 hm with hm | hm
  · rcases List.mem_append.1 hm with hm | hm
    · exact (kind_fields_of_mem_intoKind ha hm).2
    · exact (kind_fields_of_mem_intoKind hb hm).2
  · exact (kind_fields_of_mem_intoKind hd hm).2

/-- One impl per listed type and reference kind (plus the fields' own tuple when considered). -/
theorem intoKind_count (fields : List (Nat × Field)) (k : RefKind) (cv : Convs) (r : List IntoImpl)
    (h : intoKind fields k cv = .ok r) :
    r.length = (if cv.consider then 1 else 0) + cv.tys.length := by
  rw [intoKind_eq_mapM] at h
  rw [ListFacts.length_of_mapM_eq_ok h, List.length_append]
  cases cv.consider <;> rfl

/-- Reading all fields in declaration order is the identity. -/
theorem evalInto_range (s : List α) (d : α) : evalInto (List.range s.length) s d = s :=
  ListFacts.map_range_getD s d

/-- Tuple -> struct -> tuple is the identity when no field is skipped: `From` puts component i
into field i, `Into` reads the fields in declaration order. -/
theorem into_from_id (t : List α) (d : α) (cv : α → α) :
    evalInto (List.range t.length)
      ((List.range t.length).map fun i => evalInit cv t d (Init.direct (comp t.length i))) d = t := by
  rw [direct_inits_eval cv t d rfl]
  exact evalInto_range t d

/-- and struct -> tuple -> struct as well. -/
theorem from_into_id (s : List α) (d : α) (cv : α → α) :
    ((List.range s.length).map fun i =>
      evalInit cv (evalInto (List.range s.length) s d) d (Init.direct (comp s.length i))) = s := by
  rw [evalInto_range]
  exact direct_inits_eval cv s d rfl

/-- `new(a0, a1, ..)` puts argument i into field i. -/
theorem new_ith (args : List α) (d : α) : (ctorInits args.length).map (fun i => args.getD i d) = args :=
  ListFacts.map_range_getD args d

end Dm.Props.C08
