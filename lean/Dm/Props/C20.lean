import Dm.Lemmas.Cfg
import Dm.Gen.Cfg

/-
C20 — every feature works on its own, with and without std.

`gating_closed` quantifies over ALL feature sets (2^27 of them, not just singles and pairs): in every
configuration, whenever the using side of a reference is compiled / reachable, the item it names exists.
The reference table is regenerated from both crates and both Cargo.toml on every run; the syntactic
implication check is proved sound here (`implies_sound`, from the facts of `Dm/Lemmas/Cfg.lean`). Honest label: *partial* — the extraction of
references is name-based and syn API families / the test programs are outside the model; the check
builds and tests the configurations with cargo.
-/
namespace Dm.Props.C20
open Dm.Cfg

/-- Soundness of the decision procedure, for every feature set. -/
theorem implies_sound (switches : List Nat) (a b : Cfg) (h : impliesSplit switches a b = true)
    (fs : Nat → Bool) : eval fs a = true → eval fs b = true := by
  induction switches generalizing a b with
  | nil =>
    rw [← simp_eval fs a, ← simp_eval fs b]
    exact impliesPos_sound h
  | cons s rest ih =>
    simp only [impliesSplit, Bool.and_eq_true] at h
    rw [← subst_eval fs s rfl a, ← subst_eval fs s rfl b]
    cases fs s with
    | true => exact ih _ _ h.1
    | false => exact ih _ _ h.2

/-- The regenerated table: every reference is closed under the decision procedure (`std` is the only
atom split on). -/
theorem all_refs_hold :
    Dm.Gen.refs.all (fun r => impliesSplit [Dm.Gen.stdId] r.user r.target) = true := by
  decide +kernel

/-- **For every feature set** and every reference of the current source (module → gated helper item,
expansion template → facade export, module → optional dependency, export → the features needing it,
named derive re-export ↔ its feature): if the user side is enabled, so is the target. -/
theorem gating_closed (fs : Nat → Bool) (r : Ref) (hr : r ∈ Dm.Gen.refs) :
    eval fs r.user = true → eval fs r.target = true :=
  implies_sound [Dm.Gen.stdId] r.user r.target (List.all_eq_true.1 all_refs_hold r hr) fs

/-- The feature tables of the two Cargo.toml files: each facade derive feature enables exactly the
same-named feature of the proc-macro crate, `full` is all 24 of them in both crates, `default = ["std"]`. -/
theorem cargo_tables : Dm.Gen.cargoIdentity = true ∧ Dm.Gen.fullIsAll = true ∧ Dm.Gen.defaultIsStd = true := by
  decide +kernel

/-! Non-vacuity and sanity of the decision procedure. -/
example : 50 < Dm.Gen.refs.length := by decide +kernel
example : Dm.Gen.nDeriveFeatures = 24 := by decide +kernel
-- `not` does not imply `add`; `not` implies `any(add, not)`
example : impliesSplit [24] (.feat 18) (.feat 0) = false := by decide
example : impliesSplit [24] (.feat 18) (.any [.feat 0, .feat 18]) = true := by decide
-- both arms of a std split are needed
example : impliesSplit [24] (.feat 8) (.any [.all [.feat 8, .not (.feat 24)], .all [.feat 8, .feat 24]]) = true := by decide
example : impliesSplit [24] (.feat 8) (.all [.feat 8, .feat 24]) = false := by decide
-- the implication is really about all sets: a witness set for a failing one
example : eval (fun n => n == 18) (.feat 18) = true ∧ eval (fun n => n == 18) (.feat 0) = false := by decide

end Dm.Props.C20
