import Dm.Lemmas.FmtExpand
import Dm.Gen.FmtTables

/-
C07 — enum-level format: wraps via `_variant`, otherwise is only a default.
-/
namespace Dm.Props.C07
open Dm.Fmt Dm.FmtX

/-- The text a variant prints by itself: its own attribute, else its single field under the
derived trait, else its name (through `rename_all`); more than one field without an attribute is
an error. -/
def ownText (c : Ctx) (va : Container) (ident : Name) (fields : FieldsD) : R Inner :=
  match va.fmt with
  | some a => pure (.fmtArgs a (additionalDerefArgs c.cc a fields.idents))
  | none =>
    match fields.list with
    | [] => pure (.name (match va.rename with
        | some cs => c.conv cs (unraw ident)
        | none => String.ofList (unraw ident)))
    | [f] => pure (.field c.tr (f.name.getD "_0".toList))
    | _ => throw .diag

/-- The enum-level attribute is exactly the bare `{_variant}` of the derived trait. -/
def IsBareVariant (c : Ctx) (sh : FmtAttr) : Prop :=
  ∃ e, transparentCall c.cc sh = some (e, c.tr)

instance (c : Ctx) (sh : FmtAttr) : Decidable (IsBareVariant c sh) := by
  unfold IsBareVariant
  cases h : transparentCall c.cc sh with
  | none => exact isFalse (by simp)
  | some p =>
    by_cases ht : p.2 = c.tr
    · exact isTrue ⟨p.1, by rw [← ht]⟩
    · exact isFalse (by rintro ⟨e, he⟩; cases he; exact ht rfl)

/-- Wrapping: an enum-level attribute that mentions `_variant` is applied to every variant, with
`_variant` bound to the text the variant prints by itself. -/
theorem wraps_every_variant (c : Ctx) (sh : FmtAttr) (va : Container) (ident : Name)
    (fields : FieldsD) (hm : containsArg c.cc sh variantName = true) (hb : ¬ IsBareVariant c sh) :
    displayBody c { shared := some sh, attrs := va, ident := ident, fields := fields } =
      (ownText c va ident fields).map fun i => .wrapped i (fmtBody c sh fields) := by
  unfold displayBody ownText
  rw [sharedAttrInfo_wrapping rfl hm fun x hx => hb ⟨x, hx⟩]
  cases va.fmt with
  | some a => rfl
  | none =>
    rcases fields.list with _ | ⟨f, _ | ⟨g, r⟩⟩
    · rfl
    · rfl
    · rfl

/-- The bare `{_variant}` of the derived trait prints exactly what the variant prints by itself:
the expansion is the one without any enum-level attribute. -/
theorem bare_variant_is_identity (c : Ctx) (sh : FmtAttr) (va : Container) (ident : Name)
    (fields : FieldsD) (hm : containsArg c.cc sh variantName = true) (hb : IsBareVariant c sh) :
    displayBody c { shared := some sh, attrs := va, ident := ident, fields := fields } =
      displayBody c { shared := none, attrs := va, ident := ident, fields := fields } := by
  obtain ⟨x, hx⟩ := hb
  rw [displayBody_own (sharedAttrInfo_bare rfl hm hx), displayBody_own (sharedAttrInfo_of_shared_eq_none rfl)]

/-- Default: an enum-level attribute that does not mention `_variant` is used for, and only for,
variants without an attribute of their own. -/
theorem default_only_for_unattributed (c : Ctx) (sh : FmtAttr) (va : Container) (ident : Name)
    (fields : FieldsD) (hm : containsArg c.cc sh variantName = false) :
    displayBody c { shared := some sh, attrs := va, ident := ident, fields := fields } =
      match va.fmt with
      | some a => .ok (fmtBody c a fields)
      | none => .ok (fmtBody c sh fields) := by
  unfold displayBody
  rw [sharedAttrInfo_default rfl hm]
  cases va.fmt <;> rfl

/-! ### What the wrapped single field prints under `Pointer`

A variant binds `_0 : &Field` (the address of the field's slot); the field holds a pointer.
`Pointer::fmt(_0, f)` — the variant by itself — takes `&self` and prints the pointer held by the
field; `format_args!("{:p}", e)` prints the pointer that `e` evaluates to. -/

inductive PArg where
  | binding        -- `_0`
  | derefBinding   -- `*_0`
  deriving DecidableEq

/-- The address printed by `format_args!("{:p}", e)`. -/
def pointerPrinted (slot held : Nat) : PArg → Nat
  | .binding => slot
  | .derefBinding => held

def wrappedArg (tr : Trait) : PArg := if wrappedFieldDeref tr then .derefBinding else .binding

/-- Under a wrapping enum-level format an attribute-less single-field variant of a `Pointer`
derive prints, as `_variant`, the pointer the field holds — what the variant prints by itself —
and not the address of the field. (On the pinned tree it printed the slot: fixed.) -/
theorem wrapped_pointer_field_prints_held_pointer (slot held : Nat) :
    pointerPrinted slot held (wrappedArg .pointer) = held := rfl

/-- Only `Pointer` dereferences: the other traits receive the binding itself. -/
theorem wrapped_field_deref_iff_pointer (tr : Trait) :
    wrappedArg tr = .derefBinding ↔ tr = .pointer := by
  unfold wrappedArg wrappedFieldDeref
  by_cases h : tr = .pointer <;> simp [h]

/-! #### The default placeholders, on the table read from the source on this run

`Dm.Gen.defaultPlaceholderTable` is `trait_name_to_default_placeholder_literal` of the working tree,
arm by arm, regenerated by the translator on every run. -/

def allTraits : List Trait :=
  [.binary, .debug, .display, .lowerExp, .lowerHex, .octal, .pointer, .upperExp, .upperHex]

/-- The source's table is the model's function, on all nine traits (and nothing was left unread). -/
theorem source_default_placeholders_are_the_model :
    Dm.Gen.defaultPlaceholderTable = allTraits.map (fun tr => (tr, defaultPlaceholder tr))
    ∧ Dm.Gen.defaultPlaceholderTableUnread = 0 := by
  decide +kernel

/-- Every literal of the source's table, read by the literal parser, is one modifier-free
placeholder for the first argument **under the trait of its own row**. -/
theorem source_default_placeholders_denote_their_trait :
    Dm.Gen.defaultPlaceholderTable.all (fun (tr, lit) =>
      parseFmtString { isStart := fun c => c.isAlpha, isCont := fun c => c.isAlphanum || c == '_', isWs := fun c => c == ' ' } lit
        == [{ arg := .pos 0, mods := false, trait := tr }]) = true := by
  decide +kernel

/-- The literal through which the wrapped single field is formatted denotes exactly one placeholder:
the first positional argument (the field), no modifiers, **the derived trait** — for each of the nine
formatting traits, read by the crate's own literal parser (model `parseFmtString`). -/
theorem default_placeholder_is_the_derived_trait (tr : Trait) :
    parseFmtString { isStart := fun c => c.isAlpha, isCont := fun c => c.isAlphanum || c == '_', isWs := fun c => c == ' ' }
        (defaultPlaceholder tr)
      = [{ arg := .pos 0, mods := false, trait := tr }] := by
  -- read off the source's table, which is this function and whose rows were parsed just above
  have h := source_default_placeholders_denote_their_trait
  rw [source_default_placeholders_are_the_model.1, List.all_map, List.all_eq_true] at h
  exact beq_iff_eq.1 (h tr (by cases tr <;> decide))

/-- The helper-attribute names of the nine formatting derives are pairwise distinct (an attribute
is never read by two derives), and all nine rows were read. -/
theorem source_attribute_names_distinct :
    (Dm.Gen.attributeNameTable.map (·.2)).Nodup ∧ Dm.Gen.attributeNameTable.map (·.1) = allTraits
    ∧ Dm.Gen.attributeNameTableUnread = 0 := by
  decide +kernel

/-- A `_variant` placeholder with any format specifier or a non-`Display` trait is rejected. -/
theorem variant_spec_rejected (c : Ctx) (attrs : List CAttr) (cont : Container) (vs : List VariantD)
    (hc : mergeAttrs attrs = .ok cont) (hbad : badVariantPlaceholder c cont = true) :
    displayEnum c attrs vs = .error .diag := by
  unfold displayEnum
  simp [hc, hbad, bind, Except.bind, throw, throwThe, MonadExceptOf.throw]

/-- An enum-level format attribute on `Debug` is rejected. -/
theorem debug_enum_attr_rejected (cc : CharClasses) (attrs : List CAttr) (cont : Container)
    (vs : List VariantD) (hc : dbgMerge attrs = .ok cont) (hf : cont.fmt.isSome = true) :
    debugEnum cc attrs vs = .error .diag := by
  unfold debugEnum
  simp [hc, hf, bind, Except.bind, throw, throwThe, MonadExceptOf.throw]

end Dm.Props.C07
