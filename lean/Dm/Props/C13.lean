import Dm.Lemmas.FromStr
import Dm.Lemmas.List

/-
C13 — FromStr: newtypes delegate to the field, enums match variant names.
-/
namespace Dm.Props.C13
open Dm.FS

variable {σ : Type} [DecidableEq σ]

/-- The documented rule: `v` is a variant, the string equals its name ignoring case, and either no
other variant has the same lower-cased name or the string is the name exactly. -/
def Accepts (lower : σ → σ) (names : List σ) (s v : σ) : Prop :=
  v ∈ names ∧ lower s = lower v ∧ (groupSize lower names (lower v) = 1 ∨ s = v)

/-- At most one variant accepts a given string. -/
theorem accepts_unique {lower : σ → σ} {names : List σ} {s v w : σ}
    (hv : Accepts lower names s v) (hw : Accepts lower names s w) : v = w := by
  obtain ⟨hvm, hvl, hvu⟩ := hv
  obtain ⟨hwm, hwl, hwu⟩ := hw
  have hl : lower v = lower w := hvl.symm.trans hwl
  rcases hvu with hv1 | rfl
  · exact eq_of_groupSize_one hv1 hvm hwm rfl hl.symm
  · rcases hwu with hw1 | rfl
    · exact eq_of_groupSize_one hw1 hvm hwm hl rfl
    · rfl

/-- For every order in which the arms are emitted (any permutation - in particular the hash-map
iteration order), a string parses to `v` iff the documented rule accepts it for `v`. -/
theorem enum_parse_iff (lower : σ → σ) (names : List σ)
    (as : List (Arm σ)) (hperm : as.Perm (arms lower names)) (s v : σ) :
    parse lower as s = some v ↔ Accepts lower names s v := by
  have mem_arms : ∀ a, a ∈ as ↔ ∃ w ∈ names, armOf lower names w = a := fun a => by
    rw [hperm.mem_iff, arms_eq_map_armOf, List.mem_map]
  unfold parse
  constructor
  · intro h
    obtain ⟨a, hf, rfl⟩ := Option.map_eq_some_iff.1 h
    obtain ⟨w, hw, rfl⟩ := (mem_arms a).1 (List.mem_of_find?_eq_some hf)
    rw [armOf_variant]
    exact ⟨hw, (armOf_matches_iff lower names s w).1 (List.find?_some hf)⟩
  · rintro ⟨hv, hrest⟩
    have hu : ∀ y ∈ as, y.matches lower s = true → y = armOf lower names v := by
      intro y hy hyp
      obtain ⟨w, hw, rfl⟩ := (mem_arms y).1 hy
      rw [accepts_unique ⟨hw, (armOf_matches_iff lower names s w).1 hyp⟩ ⟨hv, hrest⟩]
    rw [ListFacts.find?_eq_some_of_unique ((mem_arms _).2 ⟨v, hv, rfl⟩) ((armOf_matches_iff lower names s v).2 hrest) hu,
      Option.map_some, armOf_variant]

/-- Consequently every variant's own name parses back to that variant. -/
theorem own_name_roundtrip (lower : σ → σ) (names : List σ)
    (as : List (Arm σ)) (hperm : as.Perm (arms lower names)) (v : σ) (hv : v ∈ names) :
    parse lower as v = some v :=
  (enum_parse_iff lower names as hperm v v).2 ⟨hv, rfl, Or.inr rfl⟩

/-- Every other string is rejected. -/
theorem rejected_otherwise (lower : σ → σ) (names : List σ)
    (as : List (Arm σ)) (hperm : as.Perm (arms lower names)) (s : σ)
    (h : ∀ v, ¬ Accepts lower names s v) : parse lower as s = none := by
  cases hp : parse lower as s with
  | none => rfl
  | some v => exact absurd ((enum_parse_iff lower names as hperm s v).1 hp) (h v)

/-! ### One lower-casing on both sides

The keys of the arms are lower-cased by the macro, the scrutinee by the generated code at run time.
All the theorems above are about the case where both use the same function (std's
`str::to_lowercase`); the two statements below say that this is all that is needed, and that it
cannot be dropped. -/

/-- If the run-time lower-casing agrees with the one the keys were built with, the generated match
behaves as analysed. -/
theorem same_lowering_suffices (lowerRt lowerCt : σ → σ) (h : ∀ x, lowerRt x = lowerCt x)
    (as : List (Arm σ)) (s : σ) : parse lowerRt as s = parse lowerCt as s := by
  rw [funext h]

/-- A run-time shortcut that differs from the macro's lower-casing on some name breaks the round
trip of that name (numbers stand for strings: 7 is a name whose lower-case form is 3; the shortcut
leaves it alone). -/
theorem different_lowering_breaks_roundtrip :
    ∃ (lowerRt lowerCt : Nat → Nat) (names : List Nat) (v : Nat), v ∈ names ∧
      parse lowerCt (arms lowerCt names) v = some v ∧ parse lowerRt (arms lowerCt names) v = none := by
  refine ⟨id, fun x => if x = 7 then 3 else x, [7, 20], 7, List.mem_cons_self, ?_, ?_⟩ <;> decide

/-- A single-field struct parses exactly as its field does: success wrapped, error unchanged. -/
theorem newtype_delegates {ε α β : Type} (p : String → Except ε α) (wrap : α → β) (s : String) :
    parseNewtype p wrap s = (p s).map wrap := by
  unfold parseNewtype
  cases p s <;> rfl

/-- Non-vacuity with numbers standing for strings: names 10 ("Aa"), 11 ("aA"), 20 ("B");
`lower` maps 10, 11, 12 ("aa") to 12 and 20, 21 ("b") to 21. -/
def toyLower (n : Nat) : Nat := if n = 10 ∨ n = 11 ∨ n = 12 then 12 else if n = 20 ∨ n = 21 then 21 else n
example : parse toyLower (arms toyLower [10, 11, 20]) 11 = some 11 := by decide
example : parse toyLower (arms toyLower [10, 11, 20]) 12 = none := by decide
example : parse toyLower (arms toyLower [10, 11, 20]) 21 = some 20 := by decide

end Dm.Props.C13
