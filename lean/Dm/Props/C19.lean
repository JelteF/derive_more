import Dm.Model.Determinism
import Dm.Gen.HashSites

/-
C19 — expansion is a deterministic pure function of the derive input.

`seed_and_history_free` is the statement over every pair of worlds (hash seeds, histories of earlier
expansions), every expander and every iteration-order function; `all_sites_fixed` and
`no_global_state` are the decidable facts about the tables regenerated from the working tree.
Honest label: *partial* — a theorem about the model cannot exhibit a nondeterministic run; the
multi-process / multi-order byte comparison of the check does that.
-/
namespace Dm.Props.C19
open Dm.Det

/-- **For all worlds**: when every hashed collection of the source uses the fixed hasher and the
source has no global state, the emitted tokens depend on the item only. -/
theorem seed_and_history_free {Item Key Tok G : Type} (E : Expander Item Key Tok G) (f : Facts)
    (hs : allSitesFixed f = true) (hg : noGlobalState f = true) (w₁ w₂ : World Item) (it : Item) :
    E.run f w₁ it = E.run f w₂ it := by
  -- every site index, existing or not, counts as fixed: no seed is read; and no history
  have hk : ∀ k : Nat, (f.mentions[k]?.map (siteFixed f)).getD true = true := by
    intro k
    cases h : f.mentions[k]? with
    | none => rfl
    | some m => exact List.all_eq_true.1 hs m (List.mem_of_getElem? h)
  unfold Expander.run
  simp only [hg, hk, if_true]

/-- Conversely a site that is not fixed is a real dependency: some expander emits different tokens
in two worlds that differ in the seed only. -/
theorem unfixed_site_depends (f : Facts) (k : Nat) (m : Mention) (hm : f.mentions[k]? = some m)
    (hu : siteFixed f m = false) :
    ∃ (E : Expander Unit Nat Nat Unit) (w₁ w₂ : World Unit), E.run f w₁ () ≠ E.run f w₂ () := by
  refine ⟨⟨fun s ks => match s with | none => ks | some s => s :: ks, fun _ => (), fun _ _ => [],
          fun _ it _ => it k⟩, ⟨1, []⟩, ⟨2, []⟩, ?_⟩
  simp [Expander.run, hm, hu]

/-- Same for global state: with an impure mention the history can leak into the tokens. -/
theorem global_state_depends (f : Facts) (hg : noGlobalState f = false) :
    ∃ (E : Expander Nat Nat Nat Nat) (w₁ w₂ : World Nat), E.run f w₁ 0 ≠ E.run f w₂ 0 := by
  refine ⟨⟨fun _ ks => ks, fun h => h.length, fun _ _ => [], fun _ _ g => [g.getD 0]⟩, ⟨0, []⟩, ⟨0, [7]⟩, ?_⟩
  simp [Expander.run, hg]

/-- The regenerated table: every mention of a hashed collection in `impl/src` is the crate's alias,
the aliases use `DeterministicState`, and that builds `DefaultHasher::default()`. -/
theorem all_sites_fixed : allSitesFixed Dm.Gen.facts = true := by decide +kernel

/-- The regenerated table: no static, thread-local, clock, random source, environment, file or
process/thread id is mentioned anywhere in `impl/src`. -/
theorem no_global_state : noGlobalState Dm.Gen.facts = true := by decide +kernel

/-- C19 for the modelled fragment and the current source. -/
theorem expansion_deterministic {Item Key Tok G : Type} (E : Expander Item Key Tok G) (w₁ w₂ : World Item) (it : Item) :
    E.run Dm.Gen.facts w₁ it = E.run Dm.Gen.facts w₂ it :=
  seed_and_history_free E Dm.Gen.facts all_sites_fixed no_global_state w₁ w₂ it

example : 10 < Dm.Gen.facts.mentions.length := by decide +kernel
def exStd : Facts := ⟨[⟨0, 1, .utilsAlias⟩, ⟨0, 2, .std⟩], true, true, []⟩
def exHasher : Facts := ⟨[⟨0, 1, .utilsAlias⟩], true, false, []⟩
example : allSitesFixed exStd = false := by decide
example : allSitesFixed exHasher = false := by decide

end Dm.Props.C19
