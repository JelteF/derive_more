import Dm.Model.FmtExpand
import Dm.Lemmas.DebugTree

/-
C06 — derive_more::Debug without attributes is indistinguishable from std Debug.
-/
namespace Dm.Props.C06
open Dm.Dbg

/-- Padding is insensitive to how the text is cut into `write_str` calls. -/
theorem pad_append (st : Bool) (a b : List Char) :
    pad st (a ++ b) = ((pad st a).1 ++ (pad (pad st a).2 b).1, (pad (pad st a).2 b).2) :=
  Dm.Dbg.pad_append st a b

/-- Flat (`{:?}` and every non-alternate configuration): the crate's tuple builder writes exactly
what core's does, for every name, every number of fields, every field behaviour and every width,
fill, precision and hex flag. -/
theorem tuple_eq_std_flat (name : List Char) (fs : List FieldFmt) (ex : Bool) (o : Opts)
    (h : o.alt = false) : dmTuple name fs ex o = stdTuple name fs ex o :=
  dmTuple_eq_stdTuple fun ha => absurd (h.symm.trans ha) Bool.false_ne_true

/-- Pretty (`{:#?}`): equal whenever every field writes the same text under the caller's options
as under plain `{:#?}` - in particular whenever the caller passes no width/fill/precision/hex. -/
theorem tuple_eq_std_pretty (name : List Char) (fs : List FieldFmt) (ex : Bool) (o : Opts)
    (h : ∀ f ∈ fs, f o = f freshAlt) : dmTuple name fs ex o = stdTuple name fs ex o :=
  dmTuple_eq_stdTuple fun _ => List.map_congr_left fun f hf => (h f hf).symm

theorem tuple_eq_std_plain_pretty (name : List Char) (fs : List FieldFmt) (ex : Bool) :
    dmTuple name fs ex freshAlt = stdTuple name fs ex freshAlt :=
  dmTuple_eq_stdTuple fun _ => rfl

/-- The full-strength statement (all formatter configurations) is FALSE on this tree: in pretty
mode the crate re-formats fields with fresh options, core keeps the caller's. Witness: one field
that shows the options it sees, under `{:#x?}`-like options (`rest = 1`). -/
theorem tuple_eq_std_counterexample :
    ∃ (name : List Char) (fs : List FieldFmt) (o : Opts),
      dmTuple name fs true o ≠ stdTuple name fs true o := by
  refine ⟨['T'], [fun o => if o.rest = 0 then ['a'] else ['b']], { alt := true, rest := 1 }, ?_⟩
  decide

/-- The `split_inclusive('\n')` loop of `Padded::write_str` writes exactly the character-level
specification: four spaces in front of every character that follows a newline (or the start). -/
theorem padded_loop_is_pad (st : Bool) (s : List Char) : paddedWrite st s = pad st s :=
  paddedWrite_eq_pad st s

/-- The indentation a wrapped value gets does not depend on how it cuts its output into
`write_str` calls (an empty call, a call ending in the middle of a line, one call per character, ...). -/
theorem padded_chunking_independent (st : Bool) (c1 c2 : List (List Char))
    (h : c1.flatten = c2.flatten) : paddedWrites st c1 = paddedWrites st c2 := by
  rw [paddedWrites_eq_pad, paddedWrites_eq_pad, h]

/-- The call-by-call model of the crate's `DebugTuple` (field counter, `empty_name`, one `Padded`
per field) writes what the text-level model `dmTuple` says, for fields given as write scripts. -/
theorem tuple_code_eq_model (name : List Char) (fs : List FieldScript) (ex : Bool) (o : Opts) :
    dmTupleCode name fs ex o
      = dmTuple name (fs.map fun (s : FieldScript) (o : Opts) => (s o).flatten) ex o := by
  have hp : (paddedWrite true ['.', '.', '\n']).1 = padStr ['.', '.', '\n'] := by
    rw [paddedWrite_eq_pad]; rfl
  have hl : (fs.length > 0) = ¬ (fs.isEmpty = true) := by cases fs <;> simp
  simp only [dmTupleCode, dmTuple, hp, hl, List.isEmpty_map, List.length_map, ite_not]
  cases ha : o.alt
  · simp only [dmFieldsCode_flat ha 0 fs, Bool.false_eq_true, if_false]
  · simp only [dmFieldsCode_pretty ha 0 fs, if_true, ne_eq, not_true, or_false]

theorem nested_plain_vals : ∀ (vs : Vals) (o : Opts), o.rest = 0 →
    ((vs.fmts true).map fun f => f o) = ((vs.fmts false).map fun f => f o) := by
  intro vs o h
  induction vs using Vals.rec (motive_1 := fun v => v.fmt true o = v.fmt false o) with
  | leaf _ => rfl
  | tuple _ vs _ ih =>
    exact Val.fmt_tuple_congr rfl (by rw [fieldOpts_of_rest_eq_zero h, fieldOpts_of_rest_eq_zero h]; exact ih)
  | strukt _ _ vs _ ih => exact stdStruct_congr rfl ih
  | nil => rfl
  -- `(… :)`: the goal is a cons only after unfolding `Vals.fmts` and `List.map`
  | cons v vs ihv ihvs => exact (congr (congrArg List.cons ihv) ihvs :)

/-- **Nesting, any depth.** A value built from tuple structs / tuple variants (printed by the crate's
`DebugTuple` under `derive_more::Debug`, by core's under std's derive), named structs / variants
(core's `DebugStruct` under both) and arbitrary leaves prints identically under `{:?}` and `{:#?}`
— the formatter configurations without width, fill, precision, sign or hex — whatever the leaves do. -/
theorem nested_eq_std (v : Val) (o : Opts) (h : o.rest = 0) : v.fmt true o = v.fmt false o :=
  -- a value is a one-element list of values
  (List.cons.inj (nested_plain_vals (.cons v .nil) o h)).1

theorem nested_insens_vals : ∀ (vs : Vals), vs.Insens →
    (∀ o : Opts, ((vs.fmts true).map fun f => f o) = ((vs.fmts false).map fun f => f o))
    ∧ (∀ (d : Bool) (o : Opts), o.alt = true →
        ((vs.fmts d).map fun f => f o) = ((vs.fmts d).map fun f => f freshAlt)) := by
  refine Vals.rec (motive_1 := fun v => v.Insens →
      (∀ o : Opts, v.fmt true o = v.fmt false o)
      ∧ (∀ (d : Bool) (o : Opts), o.alt = true → v.fmt d o = v.fmt d freshAlt))
    (fun f h => ⟨fun _ => rfl, fun _ o ha => h o ha⟩) ?tuple ?strukt
    (fun _ => ⟨fun _ => rfl, fun _ _ _ => rfl⟩) ?cons
  case tuple =>
    intro _ vs _ ih h
    obtain ⟨p, q⟩ := ih h
    -- the children do not see which options their builder hands them
    have r := fun d o => map_fieldOpts (fun ha => (q d o ha).symm) d
    exact ⟨fun o => Val.fmt_tuple_congr rfl (by rw [r, r, p]),
      fun d o ha => Val.fmt_tuple_congr ha (by rw [r, r, q d o ha])⟩
  case strukt =>
    intro _ _ vs _ ih h
    obtain ⟨p, q⟩ := ih h
    exact ⟨fun o => stdStruct_congr rfl (p o), fun d o ha => stdStruct_congr ha (q d o ha)⟩
  case cons =>
    intro v vs ihv ihvs h
    obtain ⟨p, q⟩ := ihv h.1
    obtain ⟨ps, qs⟩ := ihvs h.2
    exact ⟨fun o => (congr (congrArg List.cons (p o)) (ps o) :),
      fun d o ha => (congr (congrArg List.cons (q d o ha)) (qs d o ha) :)⟩

/-- **Nesting under every formatter configuration** (width, fill, precision, sign, `0`, hex too):
equal whenever the leaves ignore those options in alternate mode, at any depth. The leaf condition
cannot be dropped: `tuple_eq_std_counterexample`. -/
theorem nested_eq_std_all_options (v : Val) (h : v.Insens) (o : Opts) :
    v.fmt true o = v.fmt false o :=
  (List.cons.inj ((nested_insens_vals (.cons v .nil) ⟨h, trivial⟩).1 o)).1

/-- Non-vacuity: `Outer(Inner { a: "x\ny", b: Unit }, ..)` at depth 2, multi-line leaf, printed
under `{:#?}`; and the hypotheses of the all-options form hold for it. -/
def sampleVal : Val :=
  .tuple ['O'] (.cons (.strukt ['I'] [['a'], ['b']]
      (.cons (.leaf fun _ => ['x', '\n', 'y']) (.cons (.tuple ['U'] .nil true) .nil)) true) .nil) false

example : sampleVal.fmt true freshAlt
    = "O(\n    I {\n        a: x\n        y,\n        b: U,\n    },\n    ..\n)".toList :=
  -- evaluating `toList` of a literal decodes UTF-8 in the kernel; this reads it as `String.ofList`
  String.toList_ofList.symm
example : sampleVal.Insens := by
  simp [sampleVal, Val.Insens, Vals.Insens]
example : paddedWrites true [['a', '\n'], [], ['\n', 'b']] = (pad true ['a', '\n', '\n', 'b']) :=
  paddedWrites_eq_pad _ _
example : (paddedWrites true [['a', '\n'], [], ['\n', 'b']]).1 = "    a\n    \n    b".toList :=
  String.toList_ofList.symm

/-! ### Which builder calls the derive makes (`debug.rs`) -/
open Dm.FmtX in
/-- Skipped fields are omitted and the output is closed by `finish_non_exhaustive` iff at least
one field is skipped; the remaining fields appear once each, in declaration order. -/
theorem calls_follow_fields (cc : Dm.Fmt.CharClasses) (fs : List FieldD) (named : Bool) :
    let fields := if named then FieldsD.named fs else FieldsD.unnamed fs
    (dbgCalls cc fields named).2 = !(fs.any fun f => f.dbg = .skip)
    ∧ (dbgCalls cc fields named).1.length = (fs.filter fun f => f.dbg ≠ .skip).length := by
  have key : ∀ (idents : List (Option Name)) (l : List FieldD) (i : Nat),
      (dbgCalls.go cc named idents i l).2 = !(l.any fun f => f.dbg = .skip)
      ∧ (dbgCalls.go cc named idents i l).1.length = (l.filter fun f => f.dbg ≠ .skip).length := by
    intro idents l i
    induction l generalizing i with
    | nil => exact ⟨rfl, rfl⟩
    | cons f rest ih =>
      obtain ⟨h1, h2⟩ := ih (i + 1)
      unfold dbgCalls.go
      cases hd : f.dbg <;> simp [hd, h1, h2]
  cases named <;> exact key _ fs 0

open Dm.FmtX in
/-- What std's `#[derive(Debug)]` expands to for the same definition: the type's (unraw) name, one
`.field(..)` per field in declaration order — labelled with the unraw field name for named fields —
and `finish()`. -/
def stdDeriveCalls (named : Bool) : Nat → List FieldD → List DbgCall
  | _, [] => []
  | i, f :: rest =>
    .value (if named then some (String.ofList (unraw (f.name.getD []))) else none)
      (f.name.getD ('_' :: (toString i).toList)) :: stdDeriveCalls named (i + 1) rest

open Dm.FmtX in
def stdDeriveBody (ident : Name) (fields : FieldsD) : DbgBody :=
  match fields with
  | .unit => .unit (String.ofList (unraw ident))
  | .unnamed fs => .tuple (String.ofList (unraw ident)) (stdDeriveCalls false 0 fs) true
  | .named fs => .struct (String.ofList (unraw ident)) (stdDeriveCalls true 0 fs) true

open Dm.FmtX in
theorem dbgCalls_go_no_attrs (cc : Dm.Fmt.CharClasses) (named : Bool) (idents : List (Option Name))
    (i : Nat) (l : List FieldD) (h : ∀ f ∈ l, f.dbg = .none) :
    dbgCalls.go cc named idents i l = (stdDeriveCalls named i l, true) := by
  induction l generalizing i with
  | nil => rfl
  | cons f rest ih =>
    simp only [dbgCalls.go, ih (i + 1) fun g hg => h g (List.mem_cons_of_mem _ hg),
      h f List.mem_cons_self, stdDeriveCalls]

open Dm.FmtX in
/-- **Without `#[debug]` attributes the derive makes exactly the builder calls std's derive makes**:
same name (raw prefix dropped), same fields in the same order with the same labels, `finish()` —
for unit, tuple and named shapes of any size. -/
theorem no_attr_body_is_std_derive (cc : Dm.Fmt.CharClasses) (ident : Name) (fields : FieldsD)
    (h : ∀ f ∈ fields.list, f.dbg = .none) :
    debugBody cc none ident fields = stdDeriveBody ident fields := by
  cases fields with
  | unit => rfl
  | unnamed fs =>
    simp only [debugBody, stdDeriveBody, dbgCalls, FieldsD.list, dbgCalls_go_no_attrs cc false _ 0 fs h]
  | named fs =>
    simp only [debugBody, stdDeriveBody, dbgCalls, FieldsD.list, dbgCalls_go_no_attrs cc true _ 0 fs h]

open Dm.FmtX in
/-- The value a body prints: its calls applied to the bound fields (`env` gives each binding's
value, itself any tree of builder output). Bodies with formatted calls are not values of this kind. -/
def bodyVal (env : Name → Val) : DbgBody → Option Val
  | .unit n => some (.tuple n.toList .nil true)
  | .tuple n cs ex =>
    (cs.mapM fun (c : DbgCall) => match c with | DbgCall.value _ b => some (env b) | DbgCall.formatted .. => none).map fun (vs : List Val) =>
      Val.tuple n.toList (Vals.ofList vs) ex
  | .struct n cs ex =>
    (cs.mapM fun (c : DbgCall) => match c with
      | DbgCall.value (some l) b => some (l.toList, env b)
      | _ => none).map fun (lvs : List (List Char × Val)) =>
      Val.strukt n.toList (lvs.map Prod.fst) (Vals.ofList (lvs.map Prod.snd)) ex
  | _ => none

open Dm.FmtX in
/-- **C06 end to end (attribute-free, `{:?}` / `{:#?}`)**: the text `derive_more::Debug` writes — its
own calls, tuple shapes through the crate's `DebugTuple` — is the text std's derive writes — std's
calls, core's builders — for every shape, every number of fields and field values nested to any
depth. -/
theorem derived_debug_is_std_debug (cc : Dm.Fmt.CharClasses) (ident : Name) (fields : FieldsD)
    (h : ∀ f ∈ fields.list, f.dbg = .none) (env : Name → Val) (o : Opts) (ho : o.rest = 0) :
    (bodyVal env (debugBody cc none ident fields)).map (fun v => v.fmt true o)
      = (bodyVal env (stdDeriveBody ident fields)).map (fun v => v.fmt false o) := by
  rw [no_attr_body_is_std_derive cc ident fields h]
  exact Option.map_congr fun v _ => nested_eq_std v o ho

open Dm.FmtX in
/-- Non-vacuity: `struct r#type { a: _, r#fn: _ }` has a value, printed `type { a: 1, fn: 1 }`. -/
example : (bodyVal (fun _ => .leaf fun _ => ['1'])
    (debugBody { isStart := fun c => c.isAlpha, isCont := fun c => c.isAlphanum, isWs := fun c => c == ' ' } none "r#type".toList
      (.named [{ name := some "a".toList, tyToks := "u8", generic := false },
               { name := some "r#fn".toList, tyToks := "u8", generic := false }]))).map (fun v => v.fmt true ⟨false, 0⟩)
    = some "type { a: 1, fn: 1 }".toList := by
  -- as above: the literals are read as `String.ofList` before evaluating
  rw [String.toList_ofList, String.toList_ofList, String.toList_ofList, String.toList_ofList]
  decide +kernel

end Dm.Props.C06
