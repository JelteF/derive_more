import Dm.Lemmas.FmtBytes
import Dm.Lemmas.ErrorSrc
import Dm.Lemmas.List
import Dm.Gen.PanicSites

/-
C18 (part a) — the byte-offset slices and loops of the format-literal parser never fail.

Every slice of `impl/src/fmt/parsing.rs` is inside one of the combinators below; the grammar functions
are compositions of them with `map` / `alt` / `and_then` / `try_seq` / `optional_result` / `lookahead`,
which neither slice nor loop. The theorems hold for every input string (any Unicode, any length) and
every well-behaved argument parser.
-/
namespace Dm.Props.C18
open Dm.Bytes

/-- base combinators: never panic, always return a proper suffix -/
theorem check_char_wb (f : Char → Bool) : WB (checkChar f) := by
  intro i
  cases i with
  | nil => trivial
  | cons c cs =>
    simp only [checkChar, sliceFrom_head, ofSlice]
    cases f c
    · trivial
    · exact ⟨[c], List.cons_ne_nil _ _, rfl⟩

theorem char_wb (c : Char) : WB (char' c) := char'_eq_checkChar c ▸ check_char_wb _
theorem any_char_wb : WB anyChar := anyChar_eq_checkChar ▸ check_char_wb _

theorem str_wb (s : List Char) (hs : s ≠ []) : WB (str' s) := by
  intro i
  by_cases h : s.isPrefixOf i = true
  · obtain ⟨t, rfl⟩ := List.isPrefixOf_iff_prefix.mp h
    simp only [str', h, if_true, sliceFrom_append, ofSlice]
    exact ⟨s, hs, rfl⟩
  · simp only [str', h]; trivial

theorem one_of_wb (cs : List Char) : WB (oneOf cs) := by
  intro i
  induction cs with
  | nil => trivial
  | cons c cs ih =>
    unfold oneOf
    cases h : char' c i with
    | ok r => exact (char_wb c).ok h
    | none => exact ih
    | panic => exact (char_wb c).noPanic i h

/-- `take_while0(p)`: for every input it terminates, does not panic, and `&input[..(input.len() -
cur.len())]` is exactly the consumed prefix. -/
theorem take_while0_total {p : P} (h : WB p) (input : List Char) :
    ∃ cur pre, takeWhile0 p input = .ok (cur, pre) ∧ input = pre ++ cur := by
  obtain ⟨r, pre, hr, rfl⟩ := whileSome_spec h (Nat.lt_succ_self input.length)
  refine ⟨r, pre, ?_, rfl⟩
  rw [takeWhile0, hr]
  exact sliceConsumed_suffix pre r

/-- `take_while1(p)`: never panics; a result is the input split into a non-empty prefix and the rest. -/
theorem take_while1_spec {p : P} (h : WB p) (input : List Char) :
    takeWhile1 p input = .none ∨
    ∃ cur pre, takeWhile1 p input = .ok (cur, pre) ∧ input = pre ++ cur ∧ pre ≠ [] := by
  unfold takeWhile1
  cases hpi : p input with
  | panic => exact (h.noPanic input hpi).elim
  | none => exact Or.inl rfl
  | ok first =>
    obtain ⟨pre0, hne, rfl⟩ := h.ok hpi
    obtain ⟨r, pre, hr, rfl⟩ := whileSome_spec h (Nat.lt_succ_self first.length)
    refine Or.inr ⟨r, pre0 ++ pre, ?_, (List.append_assoc ..).symm, fun h => hne (List.append_eq_nil_iff.1 h).1⟩
    dsimp only
    rw [hr, ← List.append_assoc]
    exact sliceConsumed_suffix (pre0 ++ pre) r

/-- `take_until1(basic, until)`: `take_while1` of "not at `until`, then `basic`". -/
theorem take_until1_spec {basic until_ : P} (hb : WB basic) (hu : NoPanic until_) (input : List Char) :
    takeUntil1 basic until_ input = .none ∨
    ∃ cur pre, takeUntil1 basic until_ input = .ok (cur, pre) ∧ input = pre ++ cur ∧ pre ≠ [] := by
  rw [takeUntil1_eq_takeWhile1]
  exact take_while1_spec (hb.untilStep hu) input

/-! ### (part b) the index expressions of `error.rs`

`ParsedFields::{source, backtrace}` are positions among the *enabled* fields; `data.members`,
`data.field_indexes`, `data.field_types` and `data.infos` have one entry per enabled field, and the
entries of `field_indexes` are positions among all fields (handed to `matcher`). Every
`data.<vec>[source]` / `[backtrace]` of `render_*`, `parse_fields` and `infer_source_field` is
therefore in bounds iff the selected position is below the number of enabled fields. -/

open Dm.Err in
/-- Whatever `parse_fields` selects — explicitly, by name or type, or through the two-field-tuple
inference — is a position of an enabled field: no `index out of bounds` at the sites above, for
every number of fields, every attribute placement and every position of ignored fields. -/
theorem error_positions_in_bounds (sh : Shape) (s b : Option Nat) (h : parseFields sh = .ok (s, b)) :
    (∀ k, s = some k → k < (enabledFields sh).length)
    ∧ (∀ k, b = some k → k < (enabledFields sh).length) := by
  unfold parseFields at h
  obtain ⟨s0, hs, h⟩ := Dm.ListFacts.bind_eq_ok h
  obtain ⟨b0, hb, h⟩ := Dm.ListFacts.bind_eq_ok h
  have hs0 : ∀ k, s0 = some k → k < (enabledFields sh).length := fun k hk => parseField_lt (hk ▸ hs)
  have hb0 : ∀ k, b0 = some k → k < (enabledFields sh).length := fun k hk => parseField_lt (hk ▸ hb)
  generalize sh.named = n at h
  obtain _ | _ := n
  · cases s0 with
    | some k0 => cases h; exact ⟨hs0, hb0⟩
    | none => cases h; exact ⟨fun k => inferSource_lt, hb0⟩
  · cases h; exact ⟨hs0, hb0⟩

open Dm.Err in
/-- The entries of `field_indexes` are positions among all fields (`matcher`, `members` of the
whole struct): in bounds too. -/
theorem error_all_index_in_bounds (sh : Shape) (k i : Nat) (h : allIdx sh k = some i) :
    i < sh.fields.length := by
  obtain ⟨f, hf⟩ := mem_enabledFields_of_allIdx h
  exact lt_of_mem_enabledFields hf

/-- The inventory of potentially aborting expressions of `impl/src` (index / slice expressions,
`unwrap` / `expect`, `panic!`-family macros, `-` `/` `%`, `Punctuated::push_*`, `Ident::new`,
`format_ident!`, `parse_quote!`), regenerated from the working tree on every run, contains nothing
beyond the accounted-for inventory (`checks/data/c18_sites.json`: proved above / deliberate diagnostic
/ observed by the fuzzing of the check). -/
theorem no_unaccounted_site : Dm.Gen.unaccountedSites = [] := by decide +kernel

example : 100 < Dm.Gen.panicSitesTotal := by decide +kernel

/-! Non-vacuity, and what the theorems exclude: using a *character count* as a byte offset panics on
the first multi-byte character (U+3000 is three bytes), and a parser that does not consume makes the
loop endless. -/
example : takeWhile0 (checkChar Char.isWhitespace) [' ', ' ', '}'] = .ok (['}'], [' ', ' ']) := by decide
example : sliceFrom ['　', '}'] 1 = none := by decide
example : sliceFrom ['　', '}'] 3 = some ['}'] := by decide
example : whileSome (fun i => .ok i) 5 ['a'] = .panic := by decide

end Dm.Props.C18
