import Dm.Lemmas.ErrorSrc

/-
C09 — `Error::source` returns exactly the field the documented rules select.
-/
namespace Dm.Props.C09
open Dm.Err

/-- The field the expansion returns (positions among the non-ignored fields, converted back to a
position among all fields for the member expression / match pattern) is the field the documented
rules select - for every number of fields, every attribute placement and every position of ignored
fields; errors coincide too. -/
theorem source_is_documented (sh : Shape) : selectSource sh = documentedSource sh := by
  unfold selectSource parseFields documentedSource
  rw [← parseField_spec sh .source, ← parseField_spec sh .backtrace]
  cases hs : parseField sh .source with
  | error e => rfl
  | ok s =>
    cases parseField sh .backtrace with
    | error e => rfl
    | ok b =>
      dsimp only [bind, Except.bind, Except.map, pure, Except.pure]
      cases sh.named with
      | true => cases s <;> rfl
      | false =>
        cases s with
        | none =>
          rw [← inferSource_spec]
          cases inferSource sh b <;> rfl
        | some k =>
          -- the selected position is in range, so `field_indexes[k]` exists
          show Except.ok (allIdx sh k) = (match allIdx sh k with | some i => _ | none => _)
          rw [allIdx, List.getElem?_eq_getElem (parseField_lt hs)]; rfl

/-- `None` cases: a field that is ignored, or marked `not(source)`, is never returned. -/
theorem returned_field_is_eligible (sh : Shape) (i : Nat) (h : documentedSource sh = .ok (some i)) :
    ∃ f, (i, f) ∈ enabledFields sh := by
  rw [← source_is_documented, selectSource] at h
  generalize parseFields sh = r at h
  obtain _ | ⟨_ | k, b⟩ := r
  · cases h
  · cases h
  · exact mem_enabledFields_of_allIdx (Except.ok.inj h)

/-- Ambiguous selections are errors: two fields marked `#[error(source)]`. -/
theorem two_explicit_sources_is_error (sh : Shape) (a b : Nat) (r : List Nat)
    (h : explicitCands sh .source = a :: b :: r) : documentedSource sh = .error .diag := by
  rw [documentedSource, h]
  rfl

/-- Non-vacuity and the shape of the repaired defect: `V(#[error(ignore)] A, #[error(source)] B)`
returns field 1 (not field 0), and `(Backtrace, #[error(ignore)] i32)` is accepted. -/
example : selectSource { named := false, fields :=
    [{ attr := some [.ignore] }, { attr := some [.source] }] } = .ok (some 1) := by rfl
example : selectSource { named := false, fields :=
    [{ tyBacktrace := true }, { attr := some [.ignore] }] } = .ok none := by rfl
example : selectSource { named := false, fields :=
    [{ tyBacktrace := true }, {}] } = .ok (some 1) := by rfl

/-- An ignored variant has no source, whatever its fields are and whatever attributes they carry
(`#[error(source)]` inside an ignored variant does not bring it back), and it is never an error. -/
theorem ignored_variant_is_none (sh : Shape) : variantSource true sh = .ok none := rfl

/-- A variant that is not ignored is treated exactly like a struct of the same shape. -/
theorem enabled_variant_is_documented (sh : Shape) : variantSource false sh = documentedSource sh :=
  source_is_documented sh

/-- Non-vacuity: `#[error(ignore)] V { #[error(source)] cause: E }` against the same variant not ignored. -/
example : variantSource true { named := true, fields := [{ name := .other, tyBacktrace := false, attr := some [.source] }] } = .ok none
    ∧ variantSource false { named := true, fields := [{ name := .other, tyBacktrace := false, attr := some [.source] }] } = .ok (some 0) := by
  constructor <;> rfl

/-- An ignored field does not turn its neighbour into "the sole field of a tuple": in a two-field
tuple with one field ignored, the other (unattributed, not a backtrace) is *not* inferred as the
source — the inference counts the declared fields, so ignoring a field never changes what is
returned for the remaining ones. -/
theorem ignored_sibling_makes_no_sole_field (fn gn : FName) (fb : Bool) :
    selectSource { named := false, fields := [⟨fn, fb, some [.ignore]⟩, ⟨gn, false, none⟩] } = .ok none
    ∧ selectSource { named := false, fields := [⟨gn, false, none⟩, ⟨fn, fb, some [.ignore]⟩] } = .ok none :=
  -- the evaluation never inspects `fn`, `gn`, `fb`. `by rfl`, not the term `rfl`: elaborating the term
  -- against the expected type makes the unifier evaluate each side twice
  And.intro (by rfl) (by rfl)

end Dm.Props.C09
