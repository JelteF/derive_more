import Dm.Model.Variants
import Dm.Lemmas.List

/-
C11 — variant accessors agree with the value's variant and never lose data.
-/
namespace Dm.Props.C11
open Dm.Var

variable {α : Type}

/-- `is_x()` is true iff the value is of variant `x`. -/
theorem is_iff (x : Nat) (v : Val α) : isX x v = true ↔ v.idx = x := by
  simp [isX]

/-- Exactly one `is_*` accessor is true for every value (among the variants `0..n`). -/
theorem is_partition (n : Nat) (v : Val α) (h : v.idx < n) :
    ((List.range n).filter fun x => isX x v) = [v.idx] := by
  have hx : ∀ x ∈ List.range n, isX x v = (x == v.idx) := fun x _ => by
    rw [isX, Bool.eq_iff_iff, decide_eq_true_eq, beq_iff_eq]; exact eq_comm
  rw [List.filter_congr hx, List.filter_beq, List.nodup_range.count, if_pos (List.mem_range.2 h)]
  rfl

/-- `unwrap_x*` returns the payload (fields in declaration order - the very same objects for the
reference forms, since the pattern binds them) iff the value is `x`, otherwise panics. -/
theorem unwrap_iff (n x : Nat) (v : Val α) (hv : v.idx < n) :
    unwrapX n x v = some (if v.idx = x then .ok v.payload else .panic v.idx) := by
  unfold unwrapX
  by_cases h : v.idx = x <;> simp [h, hv]

/-- `try_unwrap_x*` returns the same on success and otherwise an error whose `input` is the
unchanged original value. -/
theorem try_unwrap_err_returns_input (n x : Nat) (v : Val α) (hv : v.idx < n) (hne : v.idx ≠ x) :
    tryUnwrapX n x v = some (.error (v, v.idx)) := by
  simp [tryUnwrapX, hne, hv]

theorem try_unwrap_ok (n x : Nat) (v : Val α) (h : v.idx = x) :
    tryUnwrapX n x v = some (.ok v.payload) := by
  simp [tryUnwrapX, h]

/-- Grouping is a partition that does not depend on the order of the variants: a variant belongs
to the group of exactly its own type tuple. -/
theorem groups_partition (vs : List VarT) (g : VarT) (hg : g ∈ vs) (tys : List String) :
    g ∈ groupOf vs tys ↔ g.enabledTys = tys := by
  simp [groupOf, hg]

/-- `TryFrom<Enum> for (tys)` succeeds, with the non-ignored fields in order, exactly for the
variants whose non-ignored field types equal `tys`; otherwise the original value comes back. -/
theorem try_into_exact (vs : List VarT) (hidx : ∀ a ∈ vs, ∀ b ∈ vs, a.idx = b.idx → a = b)
    (tys : List String) (v : Val α) (d : α) (g : VarT) (hg : g ∈ vs) (hgi : g.idx = v.idx) :
    tryInto vs tys v d =
      if g.enabledTys = tys then .ok (g.enabledIdx.map fun i => v.payload.getD i d) else .error v := by
  -- `g` is the only member of `vs` with the value's index
  have hu : ∀ a ∈ groupOf vs tys, decide (a.idx = v.idx) = true → a = g := fun a ha hai =>
    hidx a (List.mem_filter.1 ha).1 g hg ((of_decide_eq_true hai).trans hgi.symm)
  unfold tryInto
  by_cases ht : g.enabledTys = tys
  · rw [ListFacts.find?_eq_some_of_unique ((groups_partition vs g hg tys).2 ht) (decide_eq_true hgi) hu, if_pos ht]
  · have hnone : ∀ a ∈ groupOf vs tys, ¬ decide (a.idx = v.idx) = true := fun a ha hai =>
      ht ((groups_partition vs g hg tys).1 (hu a ha hai ▸ ha))
    rw [List.find?_eq_none.2 hnone, if_neg ht]

theorem groups_order_independent (vs ws : List VarT) (h : vs.Perm ws) (tys : List String) :
    (groupOf vs tys).Perm (groupOf ws tys) := h.filter _

/-- The reference-kind defaults as the code computes them (`a && b || c` as written): with no
attribute at all only the owned accessors exist; non-vacuity of the model. -/
example : defaults none [none, none] = { enabled := true, owned := true, ref := false, refMut := false } := rfl
example : variantInfos (some [.ref, .refMut]) [none, some [.ignore]] =
    [{ enabled := true, owned := true, ref := true, refMut := true },
     { enabled := false, owned := true, ref := true, refMut := true }] := rfl

/-- Without an enum-level attribute a variant without an attribute of its own is enabled iff the
**first attributed** variant (whatever its attribute says, `ignore` included) does not enable
itself: opt-out enums (`ignore` first) keep the rest, opt-in enums (an enabling attribute first)
drop it. -/
theorem unattributed_variant_enabled (vas : List (Option (List Param))) (i : Nat)
    (h : vas[i]? = some none) :
    (variantInfos none vas)[i]?.map (·.enabled)
      = some (match (vas.map metaOf).find? (fun m => m.enabled.isSome) with
              | some m => !(m.enabled.getD true)
              | none => true) := by
  rw [variantInfos, List.getElem?_map, h]
  -- unfolding `defaults` brings its `find?` into the open, for `cases` to see it
  dsimp only [defaults]
  cases (List.map metaOf vas).find? (fun m => m.enabled.isSome) <;> rfl

/-- `#[x(ignore)] A, B, #[x(owned)] C, D`: the first attribute is an `ignore`, so `B` and `D` stay
enabled although a later variant carries an enabling attribute (the defaults come from the first
attribute of any kind, not from the first enabling one). -/
theorem ignore_first_keeps_unattributed (rest : List (Option (List Param))) (i : Nat)
    (h : (some [Param.ignore] :: rest)[i]? = some none) :
    (variantInfos none (some [Param.ignore] :: rest))[i]?.map (·.enabled) = some true :=
  -- `find?` stops at the head, whose `enabled` is `some false`
  (unattributed_variant_enabled _ i h).trans rfl

end Dm.Props.C11
